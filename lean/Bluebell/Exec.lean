import Bluebell.Peg.Eval
import Bluebell.Gen.Grammar
import Bluebell.Gen.Compiled
import Bluebell.Gen.Tables
/-!
# The grammar that actually executes

`aknExec` is the grammar decompiled from `akn.py` with parser.py's hand-optimised
`_read_non_inline_start` in place of the generated one.  `aknSourceX` is the grammar of `akn.peg`
with the plain-text rule's own class evaluated the same way (justified by `rx1_equiv_plus`), so that
trees can be compared node for node.
-/
namespace Bluebell

def plainTextRule : String := "non_inline_start"

def overrideRule (p : String × PExp) : String × PExp :=
  if p.1 == plainTextRule then (p.1, .rx1 overrideNeg overrideCls) else p

def applyOverride (g : Grammar) : Grammar := g.map overrideRule

/-- `plus (cls n c)` ↦ `rx1 n c` at the plain-text rule (same class, evaluated by one scan). -/
def scanPlainText (g : Grammar) : Grammar :=
  g.map fun (n, e) =>
    if n == plainTextRule then
      match e with
      | .plus (.cls neg cs) => (n, .rx1 neg cs)
      | e => (n, e)
    else (n, e)

def aknExec : Grammar := applyOverride aknCompiled
def aknSourceX : Grammar := scanPlainText aknSource

/-- Decidable check used by C10: the grammar's plain-text rule is `[class]+` and its class has the
same members as the class `(n, c)`. -/
def classCheck (g : Grammar) (n : Bool) (c : List Char) : Bool :=
  match g.lookup plainTextRule with
  | some (.plus (.cls neg cs)) => neg == n && cs.all (c.contains ·) && c.all (cs.contains ·)
  | _ => false

theorem lookup_applyOverride (g : Grammar) (n : String) (h : n ≠ plainTextRule) :
    (applyOverride g).lookup n = g.lookup n := by
  induction g with
  | nil => rfl
  | cons p g ih =>
    -- `overrideRule` keeps the name, and the body unless the name is `plainTextRule`, which `n` is not
    rw [applyOverride, List.map_cons, ← applyOverride, overrideRule]
    cases hn : n == p.1 with
    | false => split <;> simp only [List.lookup, hn, ih]
    | true =>
      have hp : (p.1 == plainTextRule) = false := by rw [← eq_of_beq hn]; simpa using h
      obtain ⟨m, e⟩ := p
      simp only [hp, Bool.false_eq_true, if_false, List.lookup, hn]

end Bluebell
