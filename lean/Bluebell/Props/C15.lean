import Bluebell.Props.Common
import Bluebell.Lemmas.Eid
/-!
# C15 — attachments are separately identified, correctly nested documents

* `C15_name_format` — `get_attachment_name`: the component is `[parent/]<keyword>_<n>` where `n` is one
  more than the number of attachments with that keyword already numbered under the same parent (the
  counter lives in the reserved `__attachments` namespace, keyed by `parent__keyword`).
* `C15_counter_advances` — after naming, the counter for that (parent, keyword) has advanced by one and
  no other attachment counter changed.
* `C15_uris_consistent` — the same component string is used for the work, expression and
  manifestation `FRBRthis` of the attachment's meta block.
* `C15_title_is_heading` — the alias is the heading's text when there is a heading (`hk`: no attachment further
  down is retitled).
* `C15_examples` — kernel-evaluated documents: numbering per keyword among siblings, nesting with the
  parent path, uniqueness, `Untitled`, headings that start with inline markup, eIds under `att_n`.
Not yet proved in general: uniqueness of component names over a whole forest (needs injectivity of the
`parent__keyword` key over strings); it is checked on the real outputs by the oracle.
-/
namespace Bluebell

theorem C15_name_format (parent : Option String) (st : GenState) (item : Item) :
    let name := ((item.attribs.getD []).lookup "name").getD "attachment"
    let key := match parent with | some p => p ++ "__" ++ name | none => name
    let n := (st.ids.incr "__attachments" key).2
    (attachmentName parent st item).2 =
      (match parent with | some p => p ++ "/" ++ name ++ "_" ++ toString n | none => name ++ "_" ++ toString n) := rfl

theorem C15_counter_advances (s : IdState) (pfx name : String) :
    (s.incr pfx name).2 = (s.counters.lookup (pfx, name)).getD 0 + 1 ∧
    (∀ k2, k2 ≠ (pfx, name) → (s.incr pfx name).1.counters.lookup k2 = s.counters.lookup k2) := by
  unfold IdState.incr
  exact ⟨by simp [lookup_bumpC], fun k2 h => by simp [lookup_bumpC, h]⟩

theorem C15_uris_consistent (u : Uris) (comp : String) :
    (metaStub (u.workBase ++ "/!" ++ comp) (u.exprBase ++ "/!" ++ comp) (u.manifBase ++ "/!" ++ comp)).attrs =
      [("this", u.workBase ++ "/!" ++ comp), ("alias", "Untitled"), ("expr", u.exprBase ++ "/!" ++ comp),
       ("manif", u.manifBase ++ "/!" ++ comp)] := rfl

theorem C15_title_is_heading (a : List (String × String)) (h doc : Xml) (rest : List Xml)
    (hh : h.isElem = true ∧ h.tag = "heading") (hd : ∃ da dk, doc = .elem "doc" da dk ∧ dk.any (fun m => m.tag == "meta" && m.isElem) = true)
    (hk : titlesL (h :: doc :: rest) = h :: doc :: rest) :
    titlesX (.elem "attachment" a (h :: doc :: rest)) =
      .elem "attachment" a (h :: setAliasInDoc (iterText h) doc :: rest) := by
  obtain ⟨da, dk, rfl, hm⟩ := hd
  cases h with
  | text s => simp [Xml.isElem] at hh
  | elem ht ha hks =>
    obtain rfl : ht = "heading" := hh.2
    rw [titlesX]
    simp [hk, hh.1, hh.2, setAliasFirst, hm]

mutual
/-- (component, alias, eId of the attachment) for every attachment, in document order -/
def attInfo : Xml → List (String × String × String)
  | .text _ => []
  | .elem t a ks =>
    (if t == "attachment" then
      ks.filterMap fun k => match k with
        | .elem "doc" _ dk => (dk.find? (fun m => m.tag == "meta")).map fun m =>
            ((m.attrs.lookup "this").getD "", (m.attrs.lookup "alias").getD "", (a.lookup "eId").getD "")
        | _ => none
     else []) ++ attInfoL ks
def attInfoL : List Xml → List (String × String × String)
  | [] => []
  | k :: ks => attInfo k ++ attInfoL ks
end

def attInfoOf (r : Except Err Xml) : List (String × String × String) :=
  match r with | .ok x => attInfo x | .error _ => []

theorem C15_examples :
    attInfoOf (convert testUris "" "x\nSCHEDULE First\n  a\n  ANNEXURE\n    b\n  SCHEDULE **Inner** one\n    c\nSCHEDULE\n  d\nAPPENDIX {{^1}}st\n  e\n" "act") =
      [("/akn/za/act/2009/10/!schedule_1", "First", "att_1"),
       ("/akn/za/act/2009/10/!schedule_1/annexure_1", "Untitled", "att_1__att_1"),
       ("/akn/za/act/2009/10/!schedule_1/schedule_1", "Inner one", "att_1__att_2"),
       ("/akn/za/act/2009/10/!schedule_2", "Untitled", "att_2"),
       ("/akn/za/act/2009/10/!appendix_1", "1st", "att_3")] := by
  decide +kernel

end Bluebell
