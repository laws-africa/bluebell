import Bluebell.Props.Common
import Bluebell.Lemmas.Line
import Bluebell.Lemmas.BlockLine
import Bluebell.Lemmas.Unescape
/-!
# C13 — a backslash makes the next character literal, everywhere

* `C13_unescape_escapeAll` — for every string without a newline, removing escapes from the
  character-by-character escaped string gives the string back (this is what `num` goes through).
* `C13_escape_tried_first` — in the regenerated grammar, in each of the three rules that read text
  character by character (`inline`, `inline_nested`, `num_content`) the `escape` alternative comes
  before every alternative that could consume a backslash, and `escape` is `'\\' [^\n]`. A grammar
  edit that moves or drops `escape` (in `akn.peg`, and in `akn.py` by C10) fails this `decide`.
* `C13_merge_drops_backslash` — `InlineText.many_to_dict` merges a run of escape nodes into one item
  (what the item holds is `toDict_mixed_line`, used below).
* `C13_escaped_line_examples` — kernel-evaluated instances of the end-to-end statement in several positions;
  `C13_counterexample_trailing_space` (F14): an escaped space at the end of a line leaves a stray
  backslash because `pre_parse` strips the space first.
* At the grammar level, for every text and offset: `C13_escape_anywhere_in_plain_text` — a line of escapes `\c` and
  runs of plain characters in any arrangement is read by every block-level rule as one paragraph whose text is the
  line without the escaping backslashes; `C13_block_level_reads_escaped_line` and `C13_escaped_line_is_its_text`
  are the fully escaped line.
The other text positions (headings, nums, inline markup) are decided by the oracle on the real code, 22 positions.
-/
namespace Bluebell

def escapeAll (w : List Char) : List Char := w.flatMap fun c => ['\\', c]

theorem C13_unescape_escapeAll (w : List Char) (h : '\n' ∉ w) : unescapeL (escapeAll w) = w :=
  unescapeL_escape (fun _ => true) rfl w fun _ hc _ e => h (e ▸ hc)

/-- can this alternative start by consuming a backslash? (conservative: `true` unless it is a negated
class excluding the backslash, or a reference to a rule that is a repetition of such a class) -/
def mayStartWithBackslash (g : Grammar) : PExp → Bool
  | .cls true cs => !cs.contains '\\'
  | .plus (.cls true cs) => !cs.contains '\\'
  | .rx1 true cs => !cs.contains '\\'
  | .ref n => match g.lookup n with
    | some (.plus (.cls true cs)) => !cs.contains '\\'
    | some (.rx1 true cs) => !cs.contains '\\'
    | _ => true
  | _ => true

/-- `escape` occurs among the alternatives and nothing before it can eat a backslash -/
def escapeFirst (g : Grammar) (rule : String) : Bool :=
  match g.lookup rule with
  | some e =>
    let alts := alternatives e
    let before := alts.takeWhile (fun a => a != PExp.ref "escape")
    before.length < alts.length && before.all (fun a => !mayStartWithBackslash g a)
  | none => false

instance : BEq PExp := ⟨fun a b => decide (a = b)⟩

theorem C13_escape_tried_first :
    escapeFirst aknSource "inline" = true ∧ escapeFirst aknSource "inline_nested" = true ∧
    escapeFirst aknSource "num_content" = true ∧
    aknSource.lookup "escape" = some (.seq (.cons [] (.lit ['\\']) (.cons [] (.cls true ['\n']) .nil))) := by
  decide +kernel

/-- a run of two-character escape nodes merges into one item, whatever the text -/
theorem escape_nodes_merge (inp : Array Char) (fuel : Nat) (w : List Char) (hw : w ≠ []) :
    let nodes := (List.range w.length).map fun i => Tree.leaf (2 * i) (2 * i + 2)
    ∃ items, inlineMany inp (fuel + 1) nodes = items ∧ items.length = 1 := by
  intro nodes
  refine ⟨_, rfl, ?_⟩
  -- every node is untyped, so the fold never flushes; one text item at the end
  have hk : ∀ t ∈ nodes, kindOf t ≠ "dict" := by
    intro t ht
    obtain ⟨i, _, rfl⟩ := List.mem_map.mp ht
    show ¬ ("none" = "dict")
    decide
  have hne : nodes.isEmpty = false := by
    cases w with
    | nil => exact absurd rfl hw
    | cons c r => simp [nodes, List.range_succ]
  rw [inlineMany_texts hk]
  simp [flushText, hne]

theorem C13_merge_drops_backslash (fuel : Nat) (w : List Char) (hw : w ≠ []) :
    let inp := (escapeAll w).toArray
    let nodes := (List.range w.length).map fun i => Tree.leaf (2 * i) (2 * i + 2)
    ∃ items, inlineMany inp (fuel + 1) nodes = items ∧ items.length = 1 :=
  escape_nodes_merge _ fuel w hw

/-- instances: a fully escaped keyword line / marker soup is one paragraph with exactly that text -/
theorem C13_escaped_line_examples :
    textsOf "p" (convert testUris "" "\\P\\A\\R\\T\\ \\1\\ \\-\\ \\*\\*\\x\\*\\*\\{\\{\\^\\y\\}\\}\n" "statement") = ["PART 1 - **x**{{^y}}"] ∧
    textsOf "num" (convert testUris "" "SEC \\1\\ \\-\\ \\2\n  x\n" "act") = ["1 - 2"] ∧
    textsOf "b" (convert testUris "" "a **\\*\\*\\/\\/** b\n" "statement") = ["**//"] ∧
    textsOf "sup" (convert testUris "" "a {{^\\}\\}\\{\\{}} b\n" "statement") = ["}}{{"] := by
  decide +kernel

/-- F14: an escaped space at the end of the line — the backslash survives. -/
theorem C13_counterexample_trailing_space :
    textsOf "p" (convert testUris "" "\\x\\ \n" "statement") = ["x\\"] := by decide +kernel

/-! ## The grammar-level theorem: a backslash anywhere in a line of plain text

At a backslash none of the keyword-led block rules (lists, tables, LONGTITLE, FOOTNOTE, QUOTE, BLOCKS,
`P`, nested blocks, hierarchical elements, speech blocks) can start — decided on the regenerated
grammar by the first-character analysis — so each of the block-level choices evaluates to
whatever `line` evaluates to. -/

theorem C13_block_rules_choose_line : blockChoosesLine '\\' = true := blockChoosesLine_backslash

/-- first character of a mixed line: a backslash, or a plain character at which the block-level rules choose `line` -/
def segStartOK : List Seg → Prop
  | .esc _ :: _ => True
  | .run c _ :: _ => c ≠ Char.ofNat 15 ∧ blockChoosesLine c = true
  | [] => False

theorem segStart_first {inp : Array Char} {p : Nat} : ∀ {ss : List Seg}, AtSegs inp p ss → segStartOK ss →
    ss ≠ [] ∧ ∃ c0, inp[p]? = some c0 ∧ c0 ≠ Char.ofNat 15 ∧ blockChoosesLine c0 = true
  | .esc _ :: _, h, _ => ⟨by simp, '\\', h.1, by decide, C13_block_rules_choose_line⟩
  | .run c _ :: _, h, hs => ⟨by simp, c, h.1.1, hs.1, hs.2⟩

/-- For every line made of escapes `\c` (any `c` but a newline — keyword letters, stars, braces, backslashes) and runs of
plain characters in any arrangement, at every offset of every input: all block-level rules of the executing
grammar read the line as one paragraph whose text is the line with exactly the escaping backslashes
removed. -/
theorem C13_escape_anywhere_in_plain_text (inp : Array Char) (p : Nat) (ss : List Seg)
    (h : AtSegs inp p ss) (hs : segStartOK ss) :
    ∃ t, (∀ fuel, toDict inp (fuel + 2) t
            = .node "content" "p" none (some [Item.text (String.ofList (segsTxt ss))]) none none none none none) ∧
      ∀ rule ∈ blockLevelRules, Lim aknExec inp (.ref rule) p (.ok t) := by
  obtain ⟨hne, c0, h0, hc0, hb⟩ := segStart_first h hs
  obtain ⟨te, stop, hl⟩ := mixed_line p ss hne h c0 h0 hc0
  exact ⟨_, fun fuel => toDict_mixed_line fuel p stop te ss hne h, block_rules_follow_line h0 hb hl⟩

/-- the hypotheses are met: `see \*\*this\*\* and \PART` in the middle of a text -/
example : AtSegs "x\nsee \\*\\*this\\*\\* and \\PART\nmore\n".toList.toArray 2
    [.run 's' "ee ".toList, .esc '*', .esc '*', .run 't' "his".toList, .esc '*', .esc '*', .run ' ' "and ".toList, .esc 'P',
     .run 'A' "RT".toList] ∧ blockChoosesLine 's' = true := by
  decide +kernel

/-! ## The fully escaped line

`AtEsc inp p (c :: w)` says: the text at offset `p` reads `\c\w₁\w₂…` followed by a newline, none of
the escaped characters being a newline. Whatever those characters are — keywords, markers, braces,
backslashes, attribute syntax — such a line is the segment list `(c :: w).map .esc`, so it is read as one
paragraph whose only child is the text `c w₁ w₂ …`. -/

theorem C13_block_level_reads_escaped_line (inp : Array Char) (p : Nat) (c : Char) (w : List Char)
    (h : AtEsc inp p (c :: w)) :
    ∃ t, (∀ fuel, toDict inp (fuel + 2) t
            = .node "content" "p" none (some [Item.text (String.ofList (c :: w))]) none none none none none) ∧
      ∀ r ∈ blockLevelRules, Lim aknExec inp (.ref r) p (.ok t) := by
  have := C13_escape_anywhere_in_plain_text inp p ((c :: w).map .esc) (atSegs_of_atEsc _ p h) trivial
  rwa [segsTxt_esc] at this

/-- Fuel: for all sufficiently large fuel, which by `eval_mono` is the meaning of "the result of parsing". -/
theorem C13_escaped_line_is_its_text (inp : Array Char) (p : Nat) (c : Char) (w : List Char)
    (h : AtEsc inp p (c :: w)) :
    ∃ n0, ∀ n, n0 ≤ n → ∃ t, eval aknExec inp n (.ref "line") p = .ok t ∧
      ∀ fuel, toDict inp (fuel + 2) t
        = .node "content" "p" none (some [Item.text (String.ofList (c :: w))]) none none none none none := by
  obtain ⟨t, hd, hl⟩ := C13_block_level_reads_escaped_line inp p c w h
  obtain ⟨n0, h0⟩ := hl "line" (by simp [blockLevelRules])
  exact ⟨n0, fun n hn => ⟨t, h0 n hn, hd⟩⟩

/-- the hypothesis is satisfiable: a line of escaped keywords and markers in the middle of a text -/
example : AtEsc "x\n\\P\\A\\R\\T\\ \\{\\{\\*\\*\nmore\n".toList.toArray 2 ['P', 'A', 'R', 'T', ' ', '{', '{', '*', '*'] := by
  decide +kernel

end Bluebell
