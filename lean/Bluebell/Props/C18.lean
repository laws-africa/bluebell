import Bluebell.Props.Common
import Bluebell.Lemmas.EidInv
/-!
# C18 — a provision parsed alone equals the provision parsed in context

* `C18_fragment_skips_wrapper` — for a tree whose class is not a document root, `xml_from_dict` adds
  neither the `akomaNtoso` wrapper nor a meta block, and needs no FRBR URI: the result is the
  post-processed element itself.
* `C18_prefix_seeds_ids` — the eId prefix handed to the parser is the prefix the rewriter starts with: the root of
  a fragment gets `get_eid` of that prefix on a fresh generator (C08's `C08_stability_step` then gives: a numbered,
  unclashed provision gets the same id alone and in context).
* `C18_examples` — kernel-evaluated: provisions at two depths cut out of a document, parsed alone with
  the enclosing eId as prefix, are equal (`Xml.beq`) to their subtrees in the whole document, including
  unnumbered children counted from 1 under the provision's own id.
The general statement (for every document and every uniquely numbered provision) needs a locality
theorem for the whole rewrite (the counters touched inside a subtree are keyed by ids unique to it);
it is not proved and is decided by the oracle on the real code.
-/
namespace Bluebell

theorem C18_fragment_skips_wrapper (u : Uris) (pfx : String) (item : Item) (st : GenState) (x : Xml) (st' : GenState)
    (h : itemToXml u none 100000 item { ids := {} } = (.ok x, st')) :
    (xmlFromDict u pfx item false st).1 =
      ((resolveDisplaced x >>= normalise).map fun y => titlesX (rewriteEid y pfx {}).1) := by
  unfold xmlFromDict
  simp only [h]
  cases hr : (resolveDisplaced x >>= normalise) with
  | error e => simp [hr, Except.map]
  | ok y => simp [hr, Except.map]

theorem C18_prefix_seeds_ids (tag : String) (attrs : List (String × String)) (kids : List Xml) (pfx : String)
    (hm : tag ≠ "meta") (hid : identifiable tag = true) :
    (((rewriteAll (.elem tag attrs kids) pfx).1.attrs.lookup "eId").getD "") = (({} : IdState).getEid pfx tag (numOf kids)).2 :=
  rewriteEid_eId hid

mutual
/-- the subtree with a given eId -/
def findEid (eid : String) : Xml → Option Xml
  | .text _ => none
  | .elem t a ks => if a.lookup "eId" = some eid then some (.elem t a ks) else findEidL eid ks
def findEidL (eid : String) : List Xml → Option Xml
  | [] => none
  | k :: ks => match findEid eid k with
    | some x => some x
    | none => findEidL eid ks
end

def sameAsSubtree (whole : Except Err Xml) (eid : String) (frag : Except Err Xml) : Bool :=
  match whole, frag with
  | .ok w, .ok f => match findEid eid w with
    | some s => Xml.beq s f
    | none => false
  | _, _ => false

def c18doc : String :=
  "PART 1 - Intro\n  intro text\n  SEC 1.\n    SUBSEC (a)\n      first\n      ITEMS\n        ITEM (i)\n          x\n    SUBSEC (b)\n      second {{^sup}}\n  SEC 2.\n    other\n"

theorem C18_examples :
    sameAsSubtree (convert testUris "" c18doc "act") "part_1__sec_1"
      (convert testUris "part_1" "SEC 1.\n  SUBSEC (a)\n    first\n    ITEMS\n      ITEM (i)\n        x\n  SUBSEC (b)\n    second {{^sup}}\n" "hier_element") = true ∧
    sameAsSubtree (convert testUris "" c18doc "act") "part_1__sec_1__subsec_a"
      (convert testUris "part_1__sec_1" "SUBSEC (a)\n  first\n  ITEMS\n    ITEM (i)\n      x\n" "hier_element") = true := by
  decide +kernel

end Bluebell
