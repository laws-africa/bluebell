import Bluebell.Props.Common
import Bluebell.Lemmas.Post
/-!
# C14 — footnotes: every reference gets one note and no content vanishes

Model: `resolveDisplaced` (tied to `resolve_displaced_content` through the `convert` stage).
* `C14_no_placeholder_element` — whenever resolution succeeds, no `displaced` element is left.
* `C14_unreferenced_kept` — an unused block becomes a paragraph `FOOTNOTE <marker>` followed, in
  place, by the block's (recursively processed) element children.
* `C14_missing_content_visible` — a reference with no matching block in any enclosing element gets
  the visible paragraph `(content missing)`.
* `C14_match_is_nearest_first` — the block taken is the first matching one, in document order, of the
  nearest enclosing element that contains one (`List.findSome?` over the ancestors, nearest first).
* `C14_resolve_ref_total` — resolving one reference cannot fail (F23, repaired in 13653fd).
* `C14_markers_trimmed_alike` — the marker of a reference and the marker of a block reach the dict tree
  through the same `strip()`.
* `C14_examples` — kernel-evaluated documents: nearest enclosing element wins over an earlier block
  further out; each block is used once; a surplus block stays; a missing one is flagged.
Not theorems: that no `displaced` *attribute* survives, and the one-note-per-reference count for
arbitrary trees; both are checked on the real outputs by the oracle.
-/
namespace Bluebell

theorem C14_no_placeholder_element (x y : Xml) (h : resolveDisplaced x = .ok y) : hasTag "displaced" y = false :=
  resolveDisplaced_no_placeholder h

theorem C14_unreferenced_kept (a : List (String × String)) (ks : List Xml) :
    inlineDisplaced (.elem "displaced" a ks) =
      .elem "p" [] [.text (asciiUpper ((a.lookup "name").getD "") ++ " " ++ (a.lookup "marker").getD "")]
        :: (inlineDisplacedL ks).filter Xml.isElem := rfl

/-! ## Resolving one reference

The candidate search skips a block that contains the reference (`found_clean`; F23, repaired in 13653fd), so
moving content into a reference never moves the reference's own ancestor: `h4` of `C14_match_is_nearest_first`
follows from `h3` (`resolveRef_found` does without it), and resolving a reference cannot fail. -/

theorem C14_missing_content_visible (root ref : Xml) (rid : Nat) (ancestors : List Xml)
    (h1 : findById rid root = some ref) (h2 : ancestorsOf rid root = some ancestors)
    (h3 : ancestors.findSome? (fun p => firstDisplaced rid (ref.attrs.lookup "marker") ((ref.attrs.lookup "displaced").getD "") p) = none) :
    resolveRef root rid =
      .ok (modifyById rid (appendKids [.elem "p" [] [.text "(content missing)"]]) (modifyById rid (popAttr "displaced") root)) := by
  unfold resolveRef
  simp only [h1, h2, h3]

theorem resolveRef_found {root ref content : Xml} {rid : Nat} {ancestors : List Xml}
    (h1 : findById rid root = some ref) (h2 : ancestorsOf rid root = some ancestors)
    (h3 : ancestors.findSome? (fun p => firstDisplaced rid (ref.attrs.lookup "marker") ((ref.attrs.lookup "displaced").getD "") p) = some content) :
    resolveRef root rid =
      .ok (modifyById rid (appendKids (elemKids content))
            (removeById content.nid (modifyById rid (popAttr "displaced") root))) := by
  unfold resolveRef
  simp only [h1, h2, h3, found_clean h3]
  simp

theorem C14_match_is_nearest_first (root ref content : Xml) (rid : Nat) (ancestors : List Xml)
    (h1 : findById rid root = some ref) (h2 : ancestorsOf rid root = some ancestors)
    (h3 : ancestors.findSome? (fun p => firstDisplaced rid (ref.attrs.lookup "marker") ((ref.attrs.lookup "displaced").getD "") p) = some content)
    (h4 : (elemKids content).any (containsId rid) = false) :
    resolveRef root rid =
      .ok (modifyById rid (appendKids (elemKids content))
            (removeById content.nid (modifyById rid (popAttr "displaced") root))) :=
  resolveRef_found h1 h2 h3

theorem C14_resolve_ref_total (root : Xml) (rid : Nat) : ∃ r, resolveRef root rid = .ok r := by
  unfold resolveRef
  split
  · next ref ancestors _ _ =>
    simp only
    split
    · next content hfound => simp [found_clean hfound]
    · exact ⟨_, rfl⟩
  · exact ⟨_, rfl⟩

/-- text of every authorial note of a converted document, in document order -/
def noteTexts (r : Except Err Xml) : List String := textsOf "authorialNote" r

theorem C14_examples :
    -- nearest enclosing element first: the block inside the section wins over the earlier one outside
    noteTexts (convert testUris "" "FOOTNOTE 1\n  outer\nSEC 1\n  x{{FOOTNOTE 1}}\n  FOOTNOTE 1\n    inner\n" "doc") = ["inner"] ∧
    -- each block used at most once, in document order; the third reference finds nothing
    noteTexts (convert testUris "" "a{{FOOTNOTE 1}} b{{FOOTNOTE 1}} c{{FOOTNOTE 1}}\nFOOTNOTE 1\n  one\nFOOTNOTE 1\n  two\n" "doc")
      = ["one", "two", "(content missing)"] ∧
    -- a surplus block stays in the document as ordinary content
    textsOf "p" (convert testUris "" "x\nFOOTNOTE 9\n  kept\n" "doc") = ["x", "FOOTNOTE 9", "kept"] := by
  decide +kernel

/-! ## Markers: a reference and a block are normalised by the same function -/

def markerOf (i : Item) : Option String := (i.attribs.getD []).lookup "marker"

/-- Both sides go through Python's `strip()`, so two markers that are equal up to surrounding white space (a no-break
space pasted from a word processor, the CR of a CRLF line ending) are equal in the dict tree, where
`resolve_displaced_content` compares them. -/
theorem C14_markers_trimmed_alike (inp : Array Char) (fuel : Nat) (r b : Tree) (st sb : Nat) (lr lb : List (String × Nat))
    (kr kb : List Tree) (p q p' q' : Nat)
    (hr : r = .node p q ["FootnoteRef"] lr kr) (hb : b = .node p' q' ["Footnote"] lb kb)
    (heq : pyStripS ((r.child "marker").textOf inp) = pyStripS ((b.child "marker").textOf inp)) :
    markerOf (toDict inp (fuel + 1) r) = some (pyStripS ((r.child "marker").textOf inp)) ∧
    markerOf (toDict inp (fuel + 1) b) = markerOf (toDict inp (fuel + 1) r) := by
  subst hr hb
  -- `toDict` computes on both nodes: neither class is in its tables, and each arm strips the marker
  exact ⟨rfl, congrArg some heq.symm⟩

end Bluebell
