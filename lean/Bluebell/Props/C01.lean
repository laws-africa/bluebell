import Bluebell.Props.Common
import Bluebell.Lemmas.TokDoc
import Bluebell.Props.C11
/-!
# C01 — conversion is total

`convert u prefix text root` is the model of `AkomaNtosoParser(frbr_uri, prefix).parse_to_xml(text, root)`
(tied by the `convert` stage of the correspondence check, exception classes included).

* `C01_full`, the full statement (for the six documented roots every text converts), is false for the unchanged
  code: `C01_not_full`, from the kernel-evaluated witnesses `C01_counterexample_attachment_prefix` (F1),
  `C01_counterexample_marker_char` (F2) and `C01_counterexample_attr_name` (F3), replayed on the real code by the check.
* After the grammar: `C01_maker_total` (the element maker fails exactly on its three checks),
  `C01_normalise_total_on_roots`, `C01_eids_titles_total`.
* The parser always answers: `C01_grammar_certificate`, `C01_parser_terminates`, `C01_roots_are_rules`.
* Acceptance in full, for infinite classes of texts: `C01_flat_plain_text_accepted` and
  `C01_nested_plain_text_accepted` (first characters: `C01_plain_starts`), and from the raw text, through `pre_parse`,
  `C01_plain_text_any_indentation`.
Acceptance of texts with keywords and markup is carried by the oracle on the real code, not by a theorem.
-/
namespace Bluebell

def C01_full : Prop :=
  ∀ root ∈ sixRoots, ∀ (pfx text : String), ∃ x, convert testUris pfx text root = .ok x

/-- F1: a line starting with an attachment keyword that is not an attachment header is refused. -/
theorem C01_counterexample_attachment_prefix :
    ∀ root ∈ sixRoots, errOf (convert testUris "" "SCHEDULES foo\n" root) = some .parseError := by
  decide +kernel

/-- F2: the DEDENT marker character in the input is refused by the grammar. -/
theorem C01_counterexample_marker_char :
    errOf (convert testUris "" "\x0f\n" "act") = some .parseError := by decide +kernel

/-- F3: an attribute name that is not an XML name makes lxml raise. -/
theorem C01_counterexample_attr_name :
    errOf (convert testUris "" "P{1a b} text\n" "act") = some .valueError := by decide +kernel

theorem C01_not_full : ¬ C01_full := by
  intro h
  obtain ⟨x, hx⟩ := h "act" (by decide) "" "SCHEDULES foo\n"
  have := C01_counterexample_attachment_prefix "act" (by decide)
  rw [hx] at this
  cases this

theorem C01_maker_total (tag : String) (attrs : Attrs) (kids : List Xml) :
    (∃ x, mkElem tag attrs kids = .ok x) ↔ makerCheck attrs kids = none := by
  unfold mkElem
  cases makerCheck attrs kids with
  | none => simp
  | some e => simp

/-- `normalise` cannot fail on a root document (its root element is `akomaNtoso`). -/
theorem C01_normalise_total_on_roots (a : List (String × String)) (ks : List Xml) :
    ∃ y, normalise (.elem "akomaNtoso" a ks) = .ok y := by
  unfold normalise
  have : isEmptyTarget (.elem "akomaNtoso" a ks) = false := by
    cases ks <;> simp [isEmptyTarget, normTargets]
  simp [this]

/-- eId generation and attachment titles are total functions in the model -/
theorem C01_eids_titles_total (x : Xml) (pfx : String) : ∃ y, titlesX (rewriteAll x pfx).1 = y := ⟨_, rfl⟩

-- non-vacuity: an ordinary document converts
example : errOf (convert testUris "" "PART 1 - Intro\n  SEC 1.\n    hello **world**\n" "act") = none := by
  decide +kernel

/-! ## The parser always answers: termination of the grammar that executes

`wfG` is the decidable certificate check of `Peg/WF.lean`; the certificate (nullable rules and
ranks) is recomputed from `akn.py` on every run and *checked* here by the kernel against the
regenerated grammar with parser.py's override in place.  `peg_result_defined` is generic (any grammar,
any text).  A grammar edit that introduces left recursion (a `RecursionError` in `akn.py`) or a
`*`/`+` whose body can match the empty string (an endless loop) makes the first theorem fail. -/

theorem C01_grammar_certificate : wfG aknExec aknNullable aknRanks aknRankTop = true := akn_wf

/-- every rule of the grammar, on every text, from every offset: the interpreter answers -/
theorem C01_parser_terminates (inp : Array Char) (root : String) (h : (aknExec.lookup root).isSome)
    (p : Nat) (hp : p ≤ inp.size) :
    ∃ n r, r.done ∧ ∀ m, n ≤ m → eval aknExec inp m (.ref root) p = r :=
  peg_result_defined C01_grammar_certificate root p

theorem C01_roots_are_rules :
    (sixRoots ++ ["debate", "hier_element", "attachments"]).all (fun r => (aknExec.lookup r).isSome) = true := by
  decide +kernel

/-- `root_reads` has six roots; `C01_flat_plain_text_accepted` and `C01_nested_plain_text_accepted` are stated for the
five that have a `body` or `mainBody` -/
theorem six_of_five {root : String} (h : root ∈ ["doc", "statement", "debateReport", "act", "bill"]) : root ∈ sixRoots := by
  simp only [List.mem_cons, List.mem_nil_iff, or_false] at h
  rcases h with rfl | rfl | rfl | rfl | rfl <;> decide

/-! ## Acceptance for an infinite class of texts: flat plain-text documents

`AtLines inp 0 lines`: the text consists of the non-empty lines `lines`, each made of plain characters
(no `* / _ {` backslash), each starting with a character that no keyword, marker or container rule can
start with (`plainStart`, decided on the regenerated grammar), separated by single newlines and ending
with one.  For every such text — any number of lines, any length — the roots `doc`, `statement`,
`debateReport`, `act` and `bill` accept it and consume all of it: the interpreter answers, and whenever
it answers it answers "accepted, up to the end" (`never_refused_of_reads`).  Such a text is a block list
without nesting (`atBlks_of_atLines`), so this is the next theorem's case of no INDENT. -/
theorem C01_flat_plain_text_accepted (inp : Array Char) (root : String)
    (hroot : root ∈ ["doc", "statement", "debateReport", "act", "bill"])
    (lines : List (List Char)) (h : AtLines inp 0 lines) :
    (∃ n, (eval aknExec inp n (.ref root) 0).done) ∧
    ∀ n, (eval aknExec inp n (.ref root) 0).done → ∃ t, eval aknExec inp n (.ref root) 0 = .ok t ∧ t.stop = inp.size :=
  never_refused_of_reads (root_reads root (six_of_five hroot) _ (atBlks_of_atLines lines 0 h))

theorem C01_plain_starts :
    ("abcdefghijklmnopqrstuvwxyz0123456789(\"'.,;:-é§".toList.all plainStart) = true := plainStart_table

/-- non-vacuity: a three-line text of that shape -/
example : AtLines "the first line\n2. second (line), with punctuation\nlast one\n".toList.toArray 0
    ["the first line".toList, "2. second (line), with punctuation".toList, "last one".toList] := by
  decide +kernel

/-! ## …and with arbitrary well-nested indentation

`AtBlks inp 0 bs inp.size` (`Lemmas/NestedDoc`): the whole text reads as the list of blocks `bs`.  Every such text is accepted
in full by the same five roots: nested blocks go through `hier_block_indent` at the top level and
through `nested_block_element` below it (mutual induction over the block structure). -/
theorem C01_nested_plain_text_accepted (inp : Array Char) (root : String)
    (hroot : root ∈ ["doc", "statement", "debateReport", "act", "bill"])
    (bs : List Blk) (h : AtBlks inp 0 bs inp.size) :
    (∃ n, (eval aknExec inp n (.ref root) 0).done) ∧
    ∀ n, (eval aknExec inp n (.ref root) 0).done → ∃ t, eval aknExec inp n (.ref root) 0 = .ok t ∧ t.stop = inp.size :=
  never_refused_of_reads (root_reads root (six_of_five hroot) bs h)

/-- non-vacuity: `a`, then an indented block holding `b`, a blank line, a doubly indented `c`, then `d` -/
example : AtBlks "a\n\x0e\nb\n\n\x0e\nc\n\x0f\n\x0f\nd\n".toList.toArray 0
    [.line ['a'], .nest [.line ['b'], .nest [.line ['c']]], .line ['d']] 17 := by
  have hs := C01_plain_starts
  simp only [List.all_eq_true] at hs
  have good : ∀ c ∈ "abcdefghijklmnopqrstuvwxyz0123456789(\"'.,;:-é§".toList, GoodLine [c] := fun c hc =>
    .inl ⟨⟨c, [], rfl, hs c hc⟩, by simpa using (plainStart_parts (hs c hc)).2⟩
  exact atBlks_of_reads _ [.line ['a'] 0, .nest [.line ['b'] 1, .nest [.line ['c'] 0] 0] 0, .line ['d'] 0] 0 []
    ⟨good _ (by decide), ⟨by simp, good _ (by decide), ⟨by simp, good _ (by decide), trivial⟩, trivial⟩, good _ (by decide), trivial⟩
    (by unfold ReadsAt; decide +kernel) (by decide +kernel)

/-! ## From the raw text: any indentation whatsoever

Putting C11's normal-form theorem (for **every** text, `pre_parse` yields balanced, well-placed
markers) together with the acceptance of well-nested blocks: take any text whose lines, once
trimmed, are empty or *good* — plain characters only with a `plainStart` first character, or written
with every character escaped (`\c₁\c₂…`, whatever the characters), or plain text with escapes anywhere
(`see \*\*this\*\*`, `\PART one`: starting with an escape or a `plainStart` character) — with
**any** indentation pattern, tabs, blank lines, trailing blanks, any `indent_size`… The pre-parsed
text is accepted in full by **all six documented roots** (a judgment without part markers keeps everything
in `arguments`).  (The model's `preParse` is tied to the real `pre_parse` by C11's correspondence check;
`GoodLine` is decidable per line.) -/
theorem plain_text_accepted (n : Nat) (text : List Char) (root : String)
    (hroot : root ∈ sixRoots)
    (hlines : ∀ l ∈ (splitLines (pyStrip (detab n text))).map trimSpaces, l = [] ∨ GoodLine l) :
    let inp := (preParse n text).toArray
    ∃ t, Lim aknExec inp (.ref root) 0 (.ok t) ∧ t.stop = inp.size := by
  intro inp
  by_cases hne : pyStrip (detab n text) = []
  · -- a text of white space only pre-parses to the empty text, which is the empty list of blocks
    have he : inp = #[] := by simp [inp, preParse_blank n text hne]
    rw [he]
    exact root_reads root hroot [] rfl
  obtain ⟨toks, ⟨hpre, hcl⟩, hnf⟩ := preParse_nonblank n text hne
  obtain ⟨bs, hb, hs⟩ := blocks_of_normal_form toks hnf.balanced hnf.no_empty_block hnf.first_nonblank
  have hg : GoodKs bs := goodKs_of_struct bs hs (by rw [← hb, hcl]; exact hlines)
  have := good_blocks_accepted bs hg root hroot
  have he : inp = (unlines (toksKs bs)).toArray := by simp [inp, hpre, hb]
  rw [he]; exact this

theorem C01_plain_text_any_indentation (n : Nat) (text : List Char) (root : String)
    (hroot : root ∈ sixRoots)
    (hne : pyStrip (detab n text) ≠ [])
    (hlines : ∀ l ∈ (splitLines (pyStrip (detab n text))).map trimSpaces, l = [] ∨ GoodLine l) :
    let inp := (preParse n text).toArray
    ∃ t, Lim aknExec inp (.ref root) 0 (.ok t) ∧ t.stop = inp.size :=
  plain_text_accepted n text root hroot hlines

/-- non-vacuity: ragged indentation, a tab, blank lines, trailing blanks and a fully escaped line -/
example : let text := "first line\n      deeper, (much)\n\n  \tback a bit  \n  \\P\\A\\R\\T\\ \\1\n    see \\*\\*this\\*\\*\nend\n".toList
    pyStrip (detab 2 text) ≠ [] ∧ ∀ l ∈ (splitLines (pyStrip (detab 2 text))).map trimSpaces, l = [] ∨ GoodLine l := by
  intro text
  have hs := C01_plain_starts
  simp only [List.all_eq_true] at hs
  -- one evaluation, so that the text is decoded once
  have hl : pyStrip (detab 2 text) ≠ [] ∧ (splitLines (pyStrip (detab 2 text))).map trimSpaces =
      ["first line".toList, "deeper, (much)".toList, [], "back a bit".toList, "\\P\\A\\R\\T\\ \\1".toList,
       "see \\*\\*this\\*\\*".toList, "end".toList] := by
    decide +kernel
  refine ⟨hl.1, ?_⟩
  rw [hl.2]
  intro l hmem
  simp only [List.mem_cons, List.mem_nil_iff, or_false] at hmem
  have good : ∀ (c : Char) (r : List Char), c ∈ "abcdefghijklmnopqrstuvwxyz0123456789(\"'.,;:-é§".toList →
      (∀ x ∈ c :: r, isPlain x = true) → GoodLine (c :: r) := fun c r hc hp => Or.inl ⟨⟨c, r, rfl, hs c hc⟩, hp⟩
  rcases hmem with rfl | rfl | rfl | rfl | rfl | rfl | rfl
  · exact Or.inr (good _ _ (by decide) (by decide +kernel))
  · exact Or.inr (good _ _ (by decide) (by decide +kernel))
  · exact Or.inl rfl
  · exact Or.inr (good _ _ (by decide) (by decide +kernel))
  · exact Or.inr (Or.inr (Or.inl ⟨'P', "ART 1".toList, by decide, by decide⟩))
  · refine Or.inr (Or.inr (Or.inr ⟨[.run 's' "ee ".toList, .esc '*', .esc '*', .run 't' "his".toList, .esc '*', .esc '*'],
      by decide, ?_, hs 's' (by decide)⟩))
    simp only [WfSegs, and_true, true_and]
    decide +kernel
  · exact Or.inr (good _ _ (by decide) (by decide +kernel))

end Bluebell
