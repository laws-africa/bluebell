import Bluebell.Lemmas.EidInv
import Bluebell.Lemmas.ToXmlText
import Bluebell.Lemmas.Post
import Bluebell.Props.C13
import Bluebell.Lemmas.FlatDoc
/-!
# C03 — no text is lost, duplicated or invented on the way to XML

`iterText x` is the concatenation of all text nodes of `x` in document order (lxml's `itertext`); `itemText` is
the text a dict item carries, in the order it is written (num, heading, subheading, `from`, children).
* `C03_xml_building_keeps_text` — for every dict item, generator state and attachment context: when `itemToXml`
  succeeds, the in-order text of the element is `itemText` of the item.
* `C03_merge_keeps_text`, `C03_normalise_keeps_text`, `C03_eids_titles_keep_text` — merging adjacent text children,
  `normalise`, eId generation and attachment titles leave the in-order text of every tree as it is.
* `C03_unreferenced_block_keeps_text` — the text of an unused footnote block turned into paragraphs: the marker
  line `FOOTNOTE <marker>`, then the text of its processed element children.
* `C03_examples` — kernel-evaluated conversions (num, heading, subheading, inlines, a footnote moved to its
  reference; a list with introduction and wrap-up).
* `C03_plain_line_is_its_text`, `C03_ordinary_first_chars`, `C03_mixed_line_to_element` — grammar level, every
  text and offset: a line of plain text, with escapes anywhere, is read by every block-level rule as one
  paragraph, which the XML builder turns into `<p>` holding exactly the characters of the line.
Payload conservation through `to_dict` for the other typed rules is not a theorem; the word oracle on the real
code decides it (listed class F46).
-/
namespace Bluebell

theorem C03_merge_keeps_text : ∀ (ks : List Xml), iterTextL (mergeText ks) = iterTextL ks :=
  mergeText_text

theorem C03_normalise_keeps_text (x y : Xml) (h : normalise x = .ok y) : iterText y = iterText x := by
  unfold normalise at h
  split at h
  · cases h
  · cases h; exact normaliseX_text x

theorem C03_unreferenced_block_keeps_text (a : List (String × String)) (ks : List Xml) (h : ks.all Xml.isElem = true) :
    iterTextL (inlineDisplaced (.elem "displaced" a ks)) =
      asciiUpper ((a.lookup "name").getD "") ++ " " ++ (a.lookup "marker").getD "" ++ iterTextL ((inlineDisplacedL ks).filter Xml.isElem) := by
  rw [inlineDisplaced]
  simp [iterTextL, iterText]

mutual
theorem stripIds_text : ∀ (x : Xml), iterText (stripIds x) = iterText x
  | .text s => by simp [stripIds]
  | .elem t a ks => by
    rw [stripIds]
    split
    · rfl
    · simp [iterText, stripIdsL_text ks]
theorem stripIdsL_text : ∀ (ks : List Xml), iterTextL (stripIdsL ks) = iterTextL ks
  | [] => by simp [stripIdsL]
  | k :: ks => by simp [stripIdsL, iterTextL, stripIds_text k, stripIdsL_text ks]
end

theorem C03_eids_titles_keep_text (x : Xml) (pfx : String) :
    iterText (titlesX (rewriteAll x pfx).1) = iterText x := by
  -- eId generation changes nothing that `stripIds` keeps, and `stripIds` keeps the text
  rw [titlesX_text, ← stripIds_text, ← stripIds_text x]
  exact congrArg iterText (rewriteEid_stripIds x pfx {})

/-- body text of a converted document (meta blocks hold no text nodes in the model) -/
def bodyText (r : Except Err Xml) : String := match r with | .ok x => iterText x | .error _ => "<error>"

theorem C03_examples :
    bodyText (convert testUris "" "SEC 1. - Heading **bold**\n  SUBHEADING sub\n  text {{^sup}} more{{FOOTNOTE 1}} end\n  FOOTNOTE 1\n    note\n" "act")
      = "1.Heading boldsubtext sup morenote end" ∧
    bodyText (convert testUris "" "ITEMS\n  intro\n  ITEM (a) - h\n    x\n  wrap\n" "statement") = "intro(a)hxwrap" := by
  decide +kernel

theorem C03_xml_building_keeps_text (u : Uris) (parent : Option String) (fuel : Nat) (item : Item)
    (st st' : GenState) (x : Xml) (h : itemToXml u parent fuel item st = (.ok x, st')) :
    iterText x = itemText item :=
  itemToXml_text h

/-- non-vacuity: a hierarchical item with num, heading and mixed children is converted, and its text is as stated -/
example :
    let item := Item.node "hier" "section" none
      (some [.node "content" "p" none (some [.text "a ", .node "inline" "b" none (some [.text "b"]) none none none none none]) none none none none none,
             .node "hier" "subsection" none (some [.node "content" "p" none (some [.text "c"]) none none none none none]) (some "(1)") none none none none])
      (some "1.") (some [.text "Title"]) none none none
    (itemToXml testUris none 50 item {}).1.toOption.map iterText = some "1.Titlea b(1)c" ∧ itemText item = "1.Titlea b(1)c" := by
  decide +kernel

/-! ## A line of plain text is kept as a paragraph — at the grammar level

Plain characters are the regenerated class of the plain-text rule (no `* / _ {` or backslash);
`blockChoosesLine c`, decided on the regenerated grammar, says that no keyword-led block rule can start with
`c` (an uppercase letter that starts a keyword is excluded: there the keyword rules try first, C04's subject);
`Char.ofNat 15` is `dedentChar`, parser.py's `DEDENT`. -/
theorem C03_plain_line_is_its_text (inp : Array Char) (p : Nat) (c : Char) (r : List Char)
    (h : AtPlain inp p (c :: r)) (hc : c ≠ Char.ofNat 15) (hb : blockChoosesLine c = true) :
    ∃ t, (∀ fuel, toDict inp (fuel + 2) t
            = .node "content" "p" none (some [Item.text (String.ofList (c :: r))]) none none none none none) ∧
      ∀ rule ∈ blockLevelRules, Lim aknExec inp (.ref rule) p (.ok t) := by
  simpa [segsTxt, Seg.txt] using C13_escape_anywhere_in_plain_text inp p [.run c r] (atSegs_of_atPlain h) ⟨hc, hb⟩

theorem C03_ordinary_first_chars :
    ("abcdefghijklmnopqrstuvwxyz0123456789(\"'.,;:-é§".toList.all fun c => blockChoosesLine c && isPlain c) = true :=
  List.all_eq_true.2 fun c hc => Bool.and_eq_true_iff.2 (plainStart_parts (List.all_eq_true.1 plainStart_table c hc))

/-- the hypotheses are satisfiable: the second line of this text -/
example : AtPlain "PART 1\n  the quick (brown) fox, 1.2 - jumps\nmore\n".toList.toArray 9
    "the quick (brown) fox, 1.2 - jumps".toList := by
  decide +kernel

/-- `segsTxt ss` is the line without its escaping backslashes; when it is not XML-compatible the builder raises (F2). -/
theorem C03_mixed_line_to_element (u : Uris) (parent : Option String) (st : GenState)
    (inp : Array Char) (p : Nat) (ss : List Seg) (h : AtSegs inp p ss) (hs : segStartOK ss)
    (hx : xmlTextOk (String.ofList (segsTxt ss)) = true) :
    ∃ t, (∀ rule ∈ blockLevelRules, Lim aknExec inp (.ref rule) p (.ok t)) ∧
      ∀ k k2, (itemToXml u parent (k2 + 3) (toDict inp (k + 2) t) st).1
        = .ok (.elem "p" [] [.text (String.ofList (segsTxt ss))]) := by
  obtain ⟨t, hd, hl⟩ := C13_escape_anywhere_in_plain_text inp p ss h hs
  refine ⟨t, hl, fun k k2 => ?_⟩
  have hne : String.ofList (segsTxt ss) ≠ "" :=
    fun e => segsTxt_ne_nil (segStart_first h hs).1 (by simpa using congrArg String.toList e)
  rw [hd k]
  exact itemToXml_p u parent k2 _ st hx hne

end Bluebell
