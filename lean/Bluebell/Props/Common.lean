import Bluebell.Convert
/-! Shared by the property files: what several properties observe of a result, the FRBR URIs with which the
kernel-evaluated instances are converted (`testUris`), and the element names of the Akoma Ntoso schema against which the
keyword tables are checked (`aknHierNames`, `aknSpeechContainers`, `aknSpeechGroups`). -/
namespace Bluebell

def testUris : Uris :=
  { work := "/akn/za/act/2009/10", expr := "/akn/za/act/2009/10/eng", manif := "/akn/za/act/2009/10/eng",
    workBase := "/akn/za/act/2009/10", exprBase := "/akn/za/act/2009/10/eng", manifBase := "/akn/za/act/2009/10/eng" }

def errOf (r : Except Err Xml) : Option Err := match r with | .error e => some e | .ok _ => none

mutual
def Xml.beq : Xml → Xml → Bool
  | .text a, .text b => a == b
  | .elem t a ks, .elem t2 a2 ks2 => t == t2 && a == a2 && Xml.beqL ks ks2
  | _, _ => false
def Xml.beqL : List Xml → List Xml → Bool
  | [], [] => true
  | a :: as, b :: bs => Xml.beq a b && Xml.beqL as bs
  | _, _ => false
end

mutual
def dropEids : Xml → Xml
  | .text s => .text s
  | .elem t a ks => .elem t (a.filter (fun p => p.1 != "eId")) (dropEidsL ks)
def dropEidsL : List Xml → List Xml
  | [] => []
  | k :: ks => dropEids k :: dropEidsL ks
end

mutual
def textOfTag (tag : String) : Xml → List String
  | .text _ => []
  | .elem t _ ks => (if t == tag then [iterTextL ks] else []) ++ textOfTagL tag ks
def textOfTagL (tag : String) : List Xml → List String
  | [] => []
  | k :: ks => textOfTag tag k ++ textOfTagL tag ks
end

def textsOf (tag : String) (r : Except Err Xml) : List String :=
  match r with | .ok x => textOfTag tag x | .error _ => ["<error>"]

def alternatives : PExp → List PExp
  | .choice es => es.toList
  | .typed _ e => alternatives e
  | e => [e]

def ruleLits (g : Grammar) (rule : String) : List String :=
  match g.lookup rule with
  | some e => (alternatives e).filterMap fun a => match a with | .lit s => some (String.ofList s) | _ => none
  | none => []

def aknHierNames : List String :=
  ["alinea", "article", "book", "chapter", "clause", "division", "indent", "level", "list", "paragraph", "part",
   "point", "proviso", "rule", "section", "subchapter", "subclause", "subdivision", "sublist", "subparagraph", "subpart",
   "subrule", "subsection", "subtitle", "title", "tome", "transitional"]

def aknSpeechContainers : List String :=
  ["address", "adjournment", "administrationOfOath", "communication", "debateSection", "declarationOfVote",
   "ministerialStatements", "nationalInterest", "noticesOfMotion", "oralStatements", "papers", "personalStatements",
   "petitions", "pointOfOrder", "prayers", "proceduralMotions", "questions", "resolutions", "rollCall", "writtenStatements"]

def aknSpeechGroups : List String := ["speechGroup", "speech", "question", "answer"]

end Bluebell
