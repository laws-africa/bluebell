import Bluebell.Lemmas.Unparse
import Bluebell.Props.C03
/-!
# C06 — unparsing escapes text so it can never turn into markup

* `C06_escape_list_covers_keywords` — every keyword literal of the regenerated grammar that can open a
  block at the start of a paragraph line (hierarchical, speech, attachment, container and block
  keywords) is caught by the stylesheet's hand-maintained `escape-prefixes` list (regenerated from
  `akn_text.xsl`). Removing a keyword from the list, or adding one to the grammar only, fails this `decide`.
* `C06_item_escaped` — `ITEM` (guarded in the grammar by `!'ITEM'` at the start of a list introduction)
  is covered; on the pinned tree it was the one gap (F9, repaired in cd7bc05).
* `C06_num_escape_round_trip` — the escaping applied to a `num` (backslashes doubled, hyphens escaped) is
  undone exactly by the parser's `unescapeL`, for every string without a newline.
* `C06_unparse_leaves_input` — the caller's tree is returned untouched (F19b, repaired in 581c5ee: the
  transform runs on a copy).
* `C06_unparse_total` — the model of the stylesheet is a total function.
* `C06_examples` — kernel-evaluated: paragraphs, headings and nums made of keywords and marker
  sequences survive unparse + parse with the same structure and text.
* `C06_safe_text_verbatim` — a string free of marker characters, braces, backslashes and line breaks whose
  first character is neither white space nor an uppercase letter is written, as the first text of a
  paragraph, exactly as it is.
* `C06_keyword_paragraph_round_trip` — a text of safe characters that starts with a listed keyword is written
  with one backslash in front, and every block-level rule reads that line back as the paragraph `<p>` with the
  original text.
The general structural statement is not a theorem; the tree oracle on the real code decides it (listed
classes F32–F34, F36, F44).
-/
namespace Bluebell

/-- the literals that are alternatives of the expression: choices and types are looked through, nothing else -/
def litsOf : PExp → List String
  | .lit s => [String.ofList s]
  | .choice es => litsOfL es
  | .typed _ e => litsOf e
  | _ => []
where litsOfL : PExps → List String
  | .nil => []
  | .cons e r => litsOf e ++ litsOfL r

/-- like `ruleLits`, but also the literals of choices nested in the rule's choice -/
def ruleLits' (g : Grammar) (rule : String) : List String :=
  match g.lookup rule with | some e => litsOf e | none => []

/-- the first literal of a rule that is a sequence starting with a literal (e.g. `'TABLE' attrs eol …`) -/
def headLit (g : Grammar) (rule : String) : List String :=
  let rec go : PExp → List String
    | .typed _ e => go e
    | .seq (.cons _ (.lit s) _) => [String.ofList s]
    | .seq (.cons _ (.choice es) _) => litsOf (.choice es)
    | _ => []
  match g.lookup rule with | some e => go e | none => []

/-- keywords that open a block when they start a line -/
def blockKeywords : List String :=
  ruleLits' aknSource "hier_element_name" ++ ruleLits' aknSource "speech_container_name" ++
  ruleLits' aknSource "speech_group_name" ++ ruleLits' aknSource "speech_block_name" ++
  ruleLits' aknSource "attachment_marker" ++
  (["block_list", "bullet_list", "table", "table_row", "longtitle", "subheading", "crossheading", "blocks", "block_quote",
    "footnote", "speech_from", "table_cell", "block_list_item"].flatMap (headLit aknSource))

/-- container markers: the whole line is the keyword.  `preamble_marker` and `preface_marker` are bare literals, for which
`headLit` yields nothing: they are added by hand. -/
def containerKeywords : List String :=
  ["body_marker", "conclusions_marker", "preamble_marker", "preface_marker", "introduction_marker", "background_marker",
   "arguments_marker", "remedies_marker", "motivation_marker", "decision_marker"].flatMap (headLit aknSource) ++
  ["PREAMBLE", "PREFACE"]

def escaped (s : String) : Bool := escapePrefixes s != s

/-- The length bound guards the `all` against a list that is empty because a rule name stopped resolving. -/
theorem C06_escape_list_covers_keywords :
    blockKeywords.length ≥ 70 ∧ blockKeywords.all (fun k => escaped (k ++ " x")) = true ∧
    containerKeywords.all escaped = true := by decide +kernel

/-- F9 (repaired in cd7bc05): a list introduction starting with `ITEM` is escaped. -/
theorem C06_item_escaped : escaped "ITEM is intro" = true ∧ blockKeywords.contains "ITEM" = true := by decide +kernel

/-! ## num escaping -/

/-- the escaping `akn_text.xsl` applies to a num, on character lists -/
def escapeNum (l : List Char) : List Char :=
  replaceAllAux ['-'] ['\\', '-'] 0 (replaceAllAux ['\\'] ['\\', '\\'] 0 l)

theorem escapeNum_eq (l : List Char) :
    escapeNum l = l.flatMap fun c => if c == '\\' || c == '-' then ['\\', c] else [c] := by
  rw [escapeNum, replaceAllAux_single, replaceAllAux_single, List.flatMap_assoc]
  congr 1
  funext c
  by_cases h1 : c = '\\'
  · subst h1
    simp
  · by_cases h2 : c = '-'
    · subst h2
      simp
    · simp [h1, h2]

/-- A newline in the num does no harm: it gets no backslash. -/
theorem unescapeL_escapeNum (l : List Char) : unescapeL (escapeNum l) = l := by
  rw [escapeNum_eq]
  exact unescapeL_escape _ rfl l fun c _ hc e => by subst e; cases hc

theorem C06_num_escape_round_trip (l : List Char) (h : '\n' ∉ l) : unescapeL (escapeNum l) = l :=
  unescapeL_escapeNum l

theorem C06_unparse_leaves_input (x : Xml) : (unparse x).2 = x := rfl

theorem C06_unparse_total (x : Xml) : ∃ s, (unparse x).1 = s := ⟨_, rfl⟩

def reparse (x : Xml) (rule : String) : Except Err Xml := convert testUris "" (unparse x).1 rule

def sameStructure (r : Except Err Xml) (x : Xml) : Bool :=
  match r with | .ok y => Xml.beq (dropEids y) x | .error _ => false

theorem C06_examples :
    sameStructure (reparse (.elem "section" [] [.elem "num" [] [.text "1-A\\"], .elem "heading" [] [.text "PART **x** {{y}}"],
        .elem "content" [] [.elem "p" [] [.text "SECTION 2 - not a heading ", .elem "b" [] [.text "*bold*"], .text " //x// BODY"],
                            .elem "p" [] [.text "TABLE"]]]) "hier_element")
      (.elem "section" [] [.elem "num" [] [.text "1-A\\"], .elem "heading" [] [.text "PART **x** {{y}}"],
        .elem "content" [] [.elem "p" [] [.text "SECTION 2 - not a heading ", .elem "b" [] [.text "*bold*"], .text " //x// BODY"],
                            .elem "p" [] [.text "TABLE"]]]) = true := by
  decide +kernel

/-! ## Text without marker characters is written verbatim -/

/-- characters the unparser never touches: not a marker character, brace, backslash or line break -/
def safeChar (c : Char) : Bool := !(c == '\\' || c == '*' || c == '/' || c == '_' || c == '{' || c == '}' || c == '\n' || c == '\r')

theorem not_mem_of_safe {s : String} (hs : ∀ c ∈ s.toList, safeChar c = true) {c : Char} (hc : safeChar c = false) :
    c ∉ s.toList := fun hm => by
  rw [hs c hm] at hc
  cases hc

theorem escapeInlines_safe (s : String) (h : ∀ c ∈ s.toList, safeChar c = true) : escapeInlines s = s :=
  escapeInlines_of_not_mem fun c hc => not_mem_of_safe h (by revert c; decide)

theorem escapeStartEnd_safe (ctx : UCtx) {s : String} (hs : ∀ c ∈ s.toList, safeChar c = true) :
    escapeStartEnd ctx s = s := by
  have hm : ∀ c ∈ s.toList, c ≠ '*' ∧ c ≠ '/' ∧ c ≠ '_' := fun c hc =>
    ⟨fun e => not_mem_of_safe hs rfl (e ▸ hc), fun e => not_mem_of_safe hs rfl (e ▸ hc),
      fun e => not_mem_of_safe hs rfl (e ▸ hc)⟩
  rw [escapeStartEnd_of_not_marker ctx (fun c hc => hm c (List.mem_of_mem_head? hc))
    (fun c hc => hm c (List.mem_of_getLast? hc)), escapeInlines_safe s hs]

/-- of the escaping steps only `escape-prefixes` can act on safe text; leading white space is trimmed where
the stylesheet trims it -/
theorem unNode_text_safe (fuel : Nat) (ctx : UCtx) (s : String) (hs : ∀ c ∈ s.toList, safeChar c = true) :
    unNode (fuel + 1) ctx (.text s) =
      if ctx.parent == "remark" && firstElemTag ctx.before == some "br" then ltrim s
      else if (ctx.parent == "p" || ctx.parent == "listIntroduction" || ctx.parent == "listWrapUp") && noElems ctx.before then
        escapePrefixes (ltrim s)
      else s := by
  have hl : ∀ c ∈ (ltrim s).toList, safeChar c = true := fun c hc =>
    hs c ((List.dropWhile_sublist _).subset (by simpa [ltrim] using hc))
  rw [unNode_text, escapeInlines_safe _ hl, escapeStartEnd_safe ctx hl, escapeStartEnd_safe ctx hs]

theorem unNode_p_first_text_safe (fuel : Nat) (ctx : UCtx) (s : String)
    (hs : ∀ c ∈ s.toList, safeChar c = true) (hl : ltrim s = s)
    (hp : ctx.parent = "p") (hb : noElems ctx.before = true) :
    unNode (fuel + 1) ctx (.text s) = escapePrefixes s := by
  simp [unNode_text_safe fuel ctx s hs, hp, hb, hl]

theorem C06_safe_text_verbatim (fuel : Nat) (ctx : UCtx) (s : String) (f : Char) (r : List Char) (hsl : s.toList = f :: r)
    (hs : ∀ c ∈ s.toList, safeChar c = true) (hws : isXmlWs f = false) (hup : ¬ ('A' ≤ f ∧ f ≤ 'Z'))
    (hp : ctx.parent = "p") (hb : noElems ctx.before = true) :
    unNode (fuel + 1) ctx (.text s) = s := by
  rw [unNode_p_first_text_safe fuel ctx s hs (ltrim_of_head hsl hws) hp hb, escapePrefixes_lower hsl hup]

/-! ## Text that starts with a keyword: escaped, and read back as text -/

theorem escaped_eq {s : String} (h : escaped s = true) : escapePrefixes s = "\\" ++ s := by
  unfold escaped escapePrefixes at h
  unfold escapePrefixes
  by_cases hc : (xslEscapeEquals.contains s || xslEscapeStarts.any (fun k => k.toList.isPrefixOf s.toList)) = true
  · rw [if_pos hc]
  · rw [if_neg hc] at h
    simp at h

/-- Every listed keyword starts with an upper-case letter. -/
theorem not_ws_of_escaped {s : String} {f : Char} {r : List Char} (hsl : s.toList = f :: r) (hesc : escaped s = true) :
    isXmlWs f = false := by
  have hup : 'A' ≤ f ∧ f ≤ 'Z' := Decidable.by_contra fun h => by
    simp [escaped, escapePrefixes_lower hsl h] at hesc
  cases hw : isXmlWs f with
  | false => rfl
  | true =>
    simp only [isXmlWs, Bool.or_eq_true, beq_iff_eq] at hw
    rcases hw with ((rfl | rfl) | rfl) | rfl <;> exact absurd hup.1 (by decide)

theorem ltrim_of_escaped {s : String} (hesc : escaped s = true) : ltrim s = s := by
  cases hsl : s.toList with
  | nil => rw [ltrim, hsl, List.dropWhile_nil, ← hsl, String.ofList_toList]
  | cons f r => exact ltrim_of_head hsl (not_ws_of_escaped hsl hesc)

theorem unNode_keyword_text (fuel : Nat) (ctx : UCtx) (s : String)
    (hs : ∀ c ∈ s.toList, safeChar c = true) (hesc : escaped s = true)
    (hp : ctx.parent = "p") (hb : noElems ctx.before = true) :
    unNode (fuel + 1) ctx (.text s) = "\\" ++ s := by
  rw [unNode_p_first_text_safe fuel ctx s hs (ltrim_of_escaped hesc) hp hb, escaped_eq hesc]

/-- `hesc`: the stylesheet's `escape-prefixes` step applies to `s` (it starts with a listed keyword). The line
`\s` is then read as the escape `\f` followed by a plain run: no keyword rule is tried at a backslash.  `hws` follows
from `hesc` (`not_ws_of_escaped`). -/
theorem C06_keyword_paragraph_round_trip (u : Uris) (parent : Option String) (st : GenState) (fuel : Nat) (ctx : UCtx)
    (s : String) (f d : Char) (r : List Char) (hsl : s.toList = f :: d :: r)
    (hs : ∀ c ∈ s.toList, safeChar c = true) (hws : isXmlWs f = false) (hesc : escaped s = true)
    (hpl : ∀ c ∈ d :: r, isPlain c = true) (hx : xmlTextOk s = true)
    (hp : ctx.parent = "p") (hb : noElems ctx.before = true) :
    unNode (fuel + 1) ctx (.text s) = "\\" ++ s ∧
    ∀ (inp : Array Char) (p : Nat), inp[p]? = some '\\' → inp[p + 1]? = some f →
      (∀ i (h : i < (d :: r).length), inp[p + 2 + i]? = some (d :: r)[i]) → inp[p + 2 + (d :: r).length]? = some '\n' →
      ∃ t, (∀ rule ∈ blockLevelRules, Lim aknExec inp (.ref rule) p (.ok t)) ∧
        ∀ k k2, (itemToXml u parent (k2 + 3) (toDict inp (k + 2) t) st).1 = .ok (.elem "p" [] [.text s]) := by
  refine ⟨unNode_keyword_text fuel ctx s hs hesc hp hb, ?_⟩
  intro inp p h0 h1 hin hnl
  -- the line is the escape `\f` followed by the run `d r`
  have hfn : f ≠ '\n' := fun e => not_mem_of_safe hs (c := '\n') rfl (by rw [hsl, ← e]; simp)
  have hss : String.ofList (segsTxt [.esc f, .run d r]) = s := by simp [segsTxt, Seg.txt, ← hsl]
  have := C03_mixed_line_to_element u parent st inp p [.esc f, .run d r]
    ⟨h0, h1, hfn, atRun_of_chars inp (d :: r) (p + 2) hin hpl, ⟨'\n', hnl, newline_not_plain⟩, hnl⟩ trivial
    (by rw [hss]; exact hx)
  rwa [hss] at this

/-- the hypotheses are met by the texts this is about -/
example : escaped "PART one of the Act" = true ∧ (∀ c ∈ "PART one of the Act".toList, safeChar c = true) ∧
    (∀ c ∈ "ART one of the Act".toList, isPlain c = true) ∧ xmlTextOk "PART one of the Act" = true := by decide +kernel

end Bluebell
