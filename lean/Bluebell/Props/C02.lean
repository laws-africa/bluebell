import Bluebell.Props.Common
import Bluebell.Lemmas.Post
import Bluebell.Lemmas.ToXmlText
/-!
# C02 — output validates against the AKN 3.0 schema

Validity itself is judged by libxml2 against cobalt's XSD (a parameter; the oracle of the check).
Proved on the model are structural facts the schema needs from bluebell:
* `C02_no_placeholder_left` — after footnote resolution no `displaced` element is left;
* `C02_block_nonempty` — a block item without num, heading, subheading and children is built with a `<p/>` in it;
* `C02_required_containers` — the synthesised required containers (`makeEmpty`) have a child, and
  `if kids.isEmpty then [emptyP] else kids`, the shape of a main-content container's child list, is never `[]`;
* `C02_hier_content_wrapped` — a hierarchical item without num, heading and subheading whose children are all
  non-hierarchical gets exactly one `content` wrapper around them;
* `C02_keyword_tables` — every hierarchical synonym maps to one of the 27 AKN hierarchical element names, every
  speech synonym to an AKN speech container or speech group name.
The full statement is false on the unchanged tree: `C02_counterexample_longtitle` (F4) is a kernel-evaluated
witness; the other listed classes (F5–F7, F17, F18, F24, F26, F38, F39, F41, F45, F47) are found and classified
by the check on the real code against the real XSD.
-/
namespace Bluebell

theorem C02_no_placeholder_left (x y : Xml) (h : resolveDisplaced x = .ok y) : hasTag "displaced" y = false :=
  resolveDisplaced_no_placeholder h

theorem C02_required_containers :
    (∀ tag ∈ ["body", "judgmentBody", "mainBody", "debateBody"],
      ∃ t n a k ks, makeEmpty tag = .node t n a (some (k :: ks)) none none none none none) ∧
    (∀ (b : Bool) (kids : List Item), (if (wrapChildren b kids).isEmpty then [emptyP] else wrapChildren b kids) ≠ []) := by
  constructor
  · intro tag h
    simp only [List.mem_cons, List.mem_nil_iff, or_false] at h
    rcases h with h | h | h | h <;> subst h <;> simp [makeEmpty]
  · intro b kids
    split
    · simp
    · next h => intro e; rw [e] at h; simp at h

theorem C02_block_nonempty (u : Uris) (fuel : Nat) (name : String) (st : GenState) :
    (itemToXml u none (fuel + 3) (.node "block" name none (some []) none none none none none) st).1 =
      .ok (.elem name [] [.elem "p" [] []]) := rfl

theorem C02_hier_content_wrapped (u : Uris) (fuel : Nat) (name : String) (kids : List Item) (st : GenState)
    (h : kids.all (fun k => !checkHier k) = true) (ks : List Xml) (st' : GenState)
    (hk : itemsToXml u none (fuel + 2) kids st = (.ok ks, st')) (hs : makerCheck [] ks = none) :
    (itemToXml u none (fuel + 3) (.node "hier" name none (some kids) none none none none none) st).1 =
      mkElem name [] [.elem "content" [] (mergeText ks)] := by
  simp only [itemToXml, Option.getD, h, if_true, hk, preNHS_none, mkElem]
  simp only [Except.bind, hs, Except.map, List.nil_append]

theorem C02_keyword_tables :
    hierSynonyms.all (fun p => aknHierNames.contains p.2) = true ∧
    speechSynonyms.all (fun p => aknSpeechContainers.contains p.2 || aknSpeechGroups.contains p.2) = true := by decide +kernel

mutual
def hasChildPair (parent child : String) : Xml → Bool
  | .text _ => false
  | .elem t _ ks => (t == parent && ks.any (fun k => k.isElem && k.tag == child)) || hasChildPairL parent child ks
def hasChildPairL (parent child : String) : List Xml → Bool
  | [] => false
  | k :: ks => hasChildPair parent child k || hasChildPairL parent child ks
end

/-- F4: `LONGTITLE foo` in a body puts `longTitle` inside `content`, which the schema forbids. -/
theorem C02_counterexample_longtitle :
    (match convert testUris "" "LONGTITLE foo\n" "act" with
     | .ok x => hasChildPair "content" "longTitle" x
     | .error _ => false) = true := by decide +kernel

end Bluebell
