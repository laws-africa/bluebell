import Bluebell.Convert
/-!
# C17 — the intermediate parse tree honours its published contract

`Item` is the model of the dicts `to_dict` returns; `toDict` is tied to the real `tree.to_dict()` by the
`todict` stage of the correspondence check (the real `json.dumps` output is compared key for key).

* `C17_text_and_marker_have_no_children` — by the shape of `Item`, a text node carries a value and
  nothing else; the only marker the grammar produces (`img`) is built without children.
* `C17_two_entry_points_agree` — `parse_to_xml` is `xml_from_dict ∘ to_dict`: the parse-tree entry
  point goes through the dict and nothing else of the tree (`hk`: the tree's class has `to_dict`; that the dict survives
  `json.dumps`/`json.loads` unchanged is checked on the real objects by the oracle and the `todict` tie).
* `C17_to_dict_is_a_function` — `toDict` has no state: two calls on the same tree agree (in Python
  this is "repeatable and free of side effects", which the oracle checks on the real objects).
* `C17_types_and_keys_documented` — every node type and key the model uses is listed in the README's section
  "Intermediate output structure" (regenerated from README.md on every run). On the pinned tree this failed
  for `speechhier`, `from` and `att_attribs` (F16, repaired by the documentation fix 3188187).
* `C17_speech_type_documented` — the speech containers of a debate have the type `speechhier`, which is documented.
-/
namespace Bluebell

theorem C17_text_and_marker_have_no_children :
    (∀ v, (Item.text v).children = none) ∧
    (∀ (inp : Array Char) (fuel : Nat) (t : Tree), t.lastType = some "Image" →
      (toDict inp (fuel + 1) t).children = none ∧ (toDict inp (fuel + 1) t).typ = "marker") := by
  refine ⟨fun _ => rfl, ?_⟩
  intro inp fuel t h
  simp only [toDict, h]
  -- `Image` is in none of `toDict`'s tables, and its arm builds a `marker` without children
  exact ⟨rfl, rfl⟩

theorem C17_to_dict_is_a_function (inp : Array Char) (fuel : Nat) (t : Tree) :
    toDict inp fuel t = toDict inp fuel t := rfl

theorem C17_two_entry_points_agree (u : Uris) (pfx text root : String) (st : GenState) (pre : Array Char) (t : Tree)
    (hp : parseText text root = .ok (pre, t)) (hk : kindOf t = "dict") :
    convertWith u pfx text root st = xmlFromDict u pfx (toDict pre (defaultFuel pre) t) (isRootTree t) st := by
  unfold convertWith
  rw [hp]
  simp [hk]

/-- the node types and keys the model of `to_dict` uses (the constructors' type strings and the keys of the JSON
rendering that the `todict` tie compares with the real `json.dumps`) -/
def modelTypes : List String := ["element", "hier", "block", "content", "inline", "text", "marker", hierTypeName, speechTypeName]
def modelKeys : List String :=
  ["type", "name", "attribs", "children", "value", "num", "heading", "subheading", "from", "att_attribs"]

theorem C17_types_and_keys_documented :
    modelTypes.all (readmeTypes.contains ·) = true ∧ modelKeys.all (readmeKeys.contains ·) = true := by decide +kernel

theorem C17_speech_type_documented :
    readmeTypes.contains (match parseText "DEBATESECTION\n  SPEECH\n    FROM x\n    text\n" "debate" with
     | .ok (pre, t) =>
       (match toDict pre (defaultFuel pre) t with
        | .node _ _ _ (some [.node _ _ _ (some [.node ty _ _ _ _ _ _ _ _]) _ _ _ _ _]) _ _ _ _ _ => ty
        | _ => "?")
     | .error _ => "?") = true := by decide +kernel

end Bluebell
