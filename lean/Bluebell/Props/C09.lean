import Bluebell.Lemmas.EidInv
/-!
# C09 — rewriting eIds is idempotent, history-free and touches nothing else

All statements are for every tree, every prefix and every pre-existing eIds.
`stripIds x` is `x` with the eId attribute of every identifiable element outside meta erased;
`assignedIds x` lists those eIds in document order.

* `C09_only_eids_change` — the rewrite changes nothing but eId attributes of identifiable elements
  outside meta (text, other attributes, exempt elements and everything inside meta are untouched).
* `C09_history_free` — the ids assigned are the ids the tree with all such eIds erased would get:
  they do not depend on what was there before (`C09_history_free_pair`: two trees that differ only in
  pre-existing eIds get the same ids).
* `C09_idempotent` / `C09_second_run_empty_mapping` — a second run returns the same tree and an
  empty mapping. Since `post_process` makes this very call and touches no eId after it, a document fresh from
  the parser is a fixed point (that `post_process` does so is the parser-output stage of the tie).
* `C09_mapping_never_identity` — the mapping never sends an id to itself; `C09_mapping_records_change`
  — a changed, non-empty old id that is not yet a key is recorded with the new id;
  `C09_mapping_first_writer_wins` — an existing key is never overwritten.
* `C09_reset_makes_object_reuse_safe` — `rewrite_all_eids` starts by resetting counters, issued ids
  and mappings. `rewriteAllOn s` models the call on a generator in state `s` and discards `s` by definition,
  so the statement holds by `rfl`: that the real method resets is carried by the tie.
-/
namespace Bluebell

theorem C09_only_eids_change (x : Xml) (pfx : String) : stripIds (rewriteAll x pfx).1 = stripIds x :=
  rewriteEid_stripIds x pfx {}

theorem C09_history_free (x : Xml) (pfx : String) :
    assignedIds (rewriteAll x pfx).1 = assignedIds (rewriteAll (stripIds x) pfx).1 :=
  (rewriteEid_history_free x pfx {} {} rfl rfl).1

theorem C09_history_free_pair (x y : Xml) (pfx : String) (h : stripIds x = stripIds y) :
    assignedIds (rewriteAll x pfx).1 = assignedIds (rewriteAll y pfx).1 := by
  rw [C09_history_free x, C09_history_free y, h]

theorem C09_idempotent (x : Xml) (pfx : String) :
    (rewriteAll (rewriteAll x pfx).1 pfx).1 = (rewriteAll x pfx).1 :=
  (rewriteEid_idem x pfx {} {} rfl rfl).1

theorem C09_second_run_empty_mapping (x : Xml) (pfx : String) :
    (rewriteAll (rewriteAll x pfx).1 pfx).2 = [] :=
  (rewriteEid_idem x pfx {} {} rfl rfl).2.1

theorem C09_mapping_never_identity (x : Xml) (pfx : String) :
    ∀ p ∈ (rewriteAll x pfx).2, p.1 ≠ p.2 := by
  intro p hp
  rcases rewriteEid_mappings x pfx {} p hp with h | h
  · cases h
  · exact h

theorem C09_mapping_records_change (m : List (String × String)) (old new : String) (h : m.lookup old = none) :
    (addMapping m old new).lookup old = some new := by
  rw [addMapping, h, if_neg (by simp), List.lookup_append, h]
  simp [List.lookup]

theorem C09_mapping_first_writer_wins (m : List (String × String)) (old new v : String) (h : m.lookup old = some v) :
    addMapping m old new = m := by
  unfold addMapping; simp [h]

/-- `rewrite_all_eids` on a generator in state `s`: reset, then rewrite -/
def rewriteAllOn (_s : IdState) (x : Xml) (pfx : String) : Xml × List (String × String) :=
  let r := rewriteEid x pfx ({} : IdState)
  (r.1, r.2.mappings)

theorem C09_reset_makes_object_reuse_safe (s t : IdState) (x : Xml) (pfx : String) :
    rewriteAllOn s x pfx = rewriteAllOn t x pfx ∧ rewriteAllOn s x pfx = rewriteAll x pfx := ⟨rfl, rfl⟩

-- non-vacuity: wrong, duplicated and missing eIds; the first run maps, the second does not
example : (rewriteAll (.elem "body" [] [.elem "section" [("eId", "x")] [.elem "num" [] [.text "1."]],
    .elem "section" [("eId", "x")] [.elem "num" [] [.text "2."]], .elem "p" [] []]) "").2 = [("x", "sec_1")] := by
  decide +kernel

end Bluebell
