import Bluebell.Lemmas.EidInv
/-!
# C08 — eIds follow the naming convention and are stable under unrelated edits

* `C08_decomposition` — the id given to an identifiable element is
  `[prefix__]alias_<n><suffix>`, `n` being the cleaned num, `nn`, or a position counter.
* `C08_pass_through_prefix` — a pass-through container adds `__<low>` (`low` = `tag.lower()`, by
  `C08_alias_table`) to the prefix handed to its children and gets no id itself.
* `C08_unnumbered` — without a (non-empty cleaned) num: `nn` (forced suffix) for elements that expect
  a number, otherwise the position counter scoped to (prefix, name), incremented by one; `C08_numbered` — with
  one, that num.
* `C08_clash_suffix` — an id issued `c ≥ 1` times before gets the suffix `_c+1`, provided that one is itself unissued;
  a fresh numbered id gets none.
* `C08_stability_step` — the id of a numbered element whose candidate was not issued before is
  `prefix__alias_cleaned-num`: it depends only on the prefix (its nearest identified ancestor's id),
  the name and the number — hence, by induction along the ancestor path, only on the names and
  numbers along that path. `C08_stability`: two documents (two rewriter states) agree on it as soon as they agree on
  the prefix.
* `C08_alias_table` — the regenerated abbreviation table is the AKN naming convention's, and the pass-through table
  maps every tag to its lower case.
-/
namespace Bluebell

theorem C08_decomposition (s : IdState) (pfx name num : String) :
    ∃ suffix, (s.getEid pfx name num).2 =
      (if pfx ≠ "" then pfx ++ "__" else "") ++ aliasOf name ++ "_" ++ (s.getNum pfx name num).2.1 ++ suffix :=
  (getEid_spec s pfx name num).1.extends_candidate

/-- `meta` is not a pass-through tag: `C08_pass_through_prefix` without `tag ≠ "meta"`. -/
theorem rewriteEid_pass_through {tag low : String} {attrs : List (String × String)} {kids : List Xml}
    {pfx : String} {s : IdState} (hp : passLower tag = some low) :
    rewriteEid (.elem tag attrs kids) pfx s =
      (.elem tag attrs (rewriteKids kids (if pfx ≠ "" then pfx ++ "__" ++ low else low) s).1,
       (rewriteKids kids (if pfx ≠ "" then pfx ++ "__" ++ low else low) s).2) := by
  have hm : tag ≠ "meta" := by rintro rfl; cases hp
  rw [rewriteEid_plain hm (by simp [identifiable, hp]), kidPfx, hp]

theorem C08_pass_through_prefix (tag low : String) (attrs : List (String × String)) (kids : List Xml)
    (pfx : String) (s : IdState) (hm : tag ≠ "meta") (hp : passLower tag = some low) :
    rewriteEid (.elem tag attrs kids) pfx s =
      (.elem tag attrs (rewriteKids kids (if pfx ≠ "" then pfx ++ "__" ++ low else low) s).1,
       (rewriteKids kids (if pfx ≠ "" then pfx ++ "__" ++ low else low) s).2) :=
  rewriteEid_pass_through hp

theorem C08_unnumbered (s : IdState) (pfx name : String) :
    (numExpected.contains name = true → s.getNumC pfx name "" = (s, "nn", true)) ∧
    (numExpected.contains name = false →
      (s.getNumC pfx name "").2 = (toString (s.incr pfx name).2, false)) :=
  ⟨getNumC_nn s pfx, fun h => by rw [getNumC_counted s pfx h]⟩

theorem C08_numbered (s : IdState) (pfx name n1 : String) (h : n1 ≠ "") :
    s.getNumC pfx name n1 = (s, n1, false) :=
  getNumC_numbered s pfx name h

theorem C08_clash_suffix (m : List (String × Nat)) (eid : String) (fuel : Nat) :
    (countOf m eid = 0 → (ensureUnique (fuel + 1) m eid false).2 = eid) ∧
    (∀ c, countOf m eid = c → 1 ≤ c → countOf m (eid ++ "_" ++ toString (c + 1)) = 0 →
      (ensureUnique (fuel + 2) m eid false).2 = eid ++ "_" ++ toString (c + 1)) := by
  refine ⟨fun h => by rw [ensureUnique_stop fuel h], ?_⟩
  rintro c rfl h1 h0
  have hne : eid ++ "_" ++ toString (countOf m eid + 1) ≠ eid := fun e => by
    have := length_suffix_gt eid (countOf m eid + 1)
    rw [e] at this
    omega
  rw [ensureUnique_step _ (Or.inl (by omega)), ensureUnique_stop]
  rw [countOf_bump, if_neg hne]
  exact h0

theorem C08_stability_step (s : IdState) (pfx name num : String)
    (hn : cleanedNum num ≠ "")
    (hu : countOf s.eidCounter ((if pfx ≠ "" then pfx ++ "__" else "") ++ aliasOf name ++ "_" ++ cleanedNum num) = 0) :
    (s.getEid pfx name num).2 = (if pfx ≠ "" then pfx ++ "__" else "") ++ aliasOf name ++ "_" ++ cleanedNum num := by
  unfold IdState.getEid IdState.getNum
  rw [C08_numbered s pfx name _ hn]
  simp only
  exact (C08_clash_suffix s.eidCounter _ (s.eidCounter.length + 1)).1 hu

theorem C08_stability (s t : IdState) (pfx name num : String) (hn : cleanedNum num ≠ "")
    (hs : countOf s.eidCounter ((if pfx ≠ "" then pfx ++ "__" else "") ++ aliasOf name ++ "_" ++ cleanedNum num) = 0)
    (ht : countOf t.eidCounter ((if pfx ≠ "" then pfx ++ "__" else "") ++ aliasOf name ++ "_" ++ cleanedNum num) = 0) :
    (s.getEid pfx name num).2 = (t.getEid pfx name num).2 := by
  rw [C08_stability_step s pfx name num hn hs, C08_stability_step t pfx name num hn ht]

def specAliases : List (String × String) :=
  [("alinea", "al"), ("amendmentBody", "body"), ("article", "art"), ("attachment", "att"), ("blockList", "list"),
   ("chapter", "chp"), ("citation", "cit"), ("citations", "cits"), ("clause", "cl"), ("component", "cmp"),
   ("componentRef", "cref"), ("components", "cmpnts"), ("debateBody", "body"), ("debateSection", "dbsect"),
   ("division", "dvs"), ("documentRef", "dref"), ("eventRef", "eref"), ("judgmentBody", "body"),
   ("listIntroduction", "intro"), ("listWrapUp", "wrapup"), ("mainBody", "body"), ("paragraph", "para"),
   ("quotedStructure", "qstr"), ("quotedText", "qtext"), ("recital", "rec"), ("recitals", "recs"), ("section", "sec"),
   ("subchapter", "subchp"), ("subclause", "subcl"), ("subdivision", "subdvs"), ("subparagraph", "subpara"),
   ("subsection", "subsec"), ("temporalGroup", "tmpg"), ("wrapUp", "wrapup")]

theorem C08_alias_table : eidAliases = specAliases ∧
    idPassThrough.all (fun p => p.2 == p.1.toLower) = true := by decide +kernel

-- non-vacuity: a numbered section under a chapter
example : (({} : IdState).getEid "chp_2" "section" "3A.").2 = "chp_2__sec_3A" := by decide +kernel
example : cleanedNum "3A." ≠ "" := by decide +kernel

end Bluebell
