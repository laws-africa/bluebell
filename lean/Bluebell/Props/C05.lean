import Bluebell.Props.C06
/-!
# C05 — XML → text → XML round trip

`unparse` is the model of the stylesheet (tied to libxslt's output by the `unparse` stage of the
correspondence check on parser outputs and on arbitrary trees).
* `C05_preserve_covers_mixed` — every element the XML builder fills with mixed inline content is in
  the stylesheet's `preserve-space` list (regenerated from `akn_text.xsl`). Before the repair of F19
  this `decide` failed on exactly `crossHeading`, `listWrapUp` and `abbr`.
* `C05_keywords_parse_back` — for each of the 27 hierarchical and 20 speech-container element names the
  keyword the stylesheet prints is a literal of the grammar's keyword rule and maps back, through the
  synonym tables of types.py, to the same element name (three regenerated tables checked against each
  other). Before the repair of F21/F25 this failed on `nationalInterest`.
* `C05_examples` — kernel-evaluated round trips (`convert (unparse (convert text)) = convert text`), one of
  them a crossheading with two adjacent inline elements (the F19 witness).
* `C05_plain_paragraph_written_as_its_text`, `C05_plain_paragraph_round_trip` — the paragraph of ordinary text,
  for every text: what the stylesheet writes for it, and that such a line is read back as `<p>` with that text.
The statement for all generated documents is not a theorem; the oracle on the real code decides it (listed
classes F6–F8, F30, F31, F40, F42, F43).
-/
namespace Bluebell

/-- elements that `item_to_xml` fills from `InlineText.many_to_dict` (text mixed with inline elements) -/
def mixedContentElements : List String :=
  ["p", "listIntroduction", "listWrapUp", "heading", "subheading", "crossHeading", "from", "scene", "narrative", "summary",
   "b", "i", "u", "sup", "sub", "ref", "remark", "abbr", "def", "term", "inline", "ins", "del", "num"]

theorem C05_preserve_covers_mixed : mixedContentElements.all (xslPreserveSpace.contains ·) = true := by
  decide +kernel

def keywordFor (t : String) : String := (xslHierSynonyms.lookup t).getD (asciiUpperS t)

theorem C05_keywords_parse_back :
    aknHierNames.all (fun t =>
      (ruleLits aknSource "hier_element_name").contains (keywordFor t) &&
      ((hierSynonyms.lookup (asciiLower (keywordFor t))).getD (asciiLower (keywordFor t)) == t) &&
      xslHier.contains t) = true ∧
    aknSpeechContainers.all (fun t =>
      (ruleLits aknSource "speech_container_name").contains (keywordFor t) &&
      ((speechSynonyms.lookup (asciiLower (keywordFor t))).getD (asciiLower (keywordFor t)) == t) &&
      xslHier.contains t) = true := by
  decide +kernel

def roundTrip (text root : String) : Except Err Xml :=
  match convert testUris "" text root with
  | .ok x => convert testUris "" (unparse x).1 root
  | .error e => .error e

def sameDoc (a b : Except Err Xml) : Bool :=
  match a, b with
  | .ok x, .ok y => Xml.beq x y
  | _, _ => false

def c05doc : String :=
  "PREFACE\n  LONGTITLE An Act\nBODY\n  PART 1 - Intro **bold** //it//\n    SUBHEADING sub\n    CROSSHEADING **a** //b//\n    SEC 1.\n      text {{^sup}} and {{abbr{title T} AB}} {{*remark}}{{FOOTNOTE 1}}\n      FOOTNOTE 1\n        note\n      ITEMS\n        intro\n        ITEM (a)\n          x\n        wrap **w** //v//\n  TABLE\n    TR\n      TC\n        cell\nSCHEDULE First\n  PARA 1\n    sched\n"

theorem C05_examples :
    sameDoc (roundTrip c05doc "act") (convert testUris "" c05doc "act") = true ∧
    sameDoc (roundTrip "CROSSHEADING **a** //b//\n" "act") (convert testUris "" "CROSSHEADING **a** //b//\n" "act") = true := by
  decide +kernel

/-! ## The paragraph of ordinary text -/

/-- `ha`: the `p` carries at most an eId; `hli`: in a bullet item the stylesheet writes neither the
indentation nor the blank line. -/
theorem C05_plain_paragraph_written_as_its_text (fuel : Nat) (ctx : UCtx) (a : List (String × String))
    (s : String) (f : Char) (r : List Char) (hsl : s.toList = f :: r)
    (hs : ∀ c ∈ s.toList, safeChar c = true) (hws : isXmlWs f = false) (hup : ¬ ('A' ≤ f ∧ f ≤ 'Z'))
    (hli : ctx.parent ≠ "li") (ha : a.any (fun (k, _) => k != "eId") = false) :
    unNode (fuel + 3) ctx (.elem "p" a [.text s]) = indentStr ctx.indent ++ s ++ "\n\n" := by
  have hv := C06_safe_text_verbatim fuel
    { parent := "p", before := [], after := [], indent := ctx.indent, pDepth := ctx.pDepth + 1 } s f r hsl hs hws hup rfl rfl
  have hli' : (ctx.parent == "li") = false := by simpa using hli
  simp [unNode_p, hli', ha, hv, notesBelowL, notesBelow]
  rw [String.append_assoc]
  rfl

/-- Text that may stand in XML holds no control character, so it does not start with DEDENT. -/
theorem ne_dedent_of_xmlTextOk {s : String} {f : Char} {r : List Char} (hsl : s.toList = f :: r) (hx : xmlTextOk s = true) :
    f ≠ Char.ofNat 15 := fun e => by
  have := List.all_eq_true.mp hx f (by rw [hsl]; exact List.mem_cons_self ..)
  rw [e] at this
  revert this
  decide

theorem plain_paragraph_read_back (u : Uris) (parent : Option String) (st : GenState)
    (s : String) (f : Char) (r : List Char) (hsl : s.toList = f :: r)
    (hp : ∀ c ∈ s.toList, isPlain c = true) (hx : xmlTextOk s = true) (hb : blockChoosesLine f = true)
    (inp : Array Char) (p : Nat)
    (hin : ∀ i (h : i < (f :: r).length), inp[p + i]? = some (f :: r)[i]) (hnl : inp[p + (f :: r).length]? = some '\n') :
    ∃ t, (∀ rule ∈ blockLevelRules, Lim aknExec inp (.ref rule) p (.ok t)) ∧
      ∀ k k2, (itemToXml u parent (k2 + 3) (toDict inp (k + 2) t) st).1 = .ok (.elem "p" [] [.text s]) := by
  -- the line is the single run `f r`
  have hss : String.ofList (segsTxt [.run f r]) = s := by simp [segsTxt, Seg.txt, ← hsl]
  have := C03_mixed_line_to_element u parent st inp p [.run f r]
    ⟨atRun_of_chars inp (f :: r) p hin (hsl ▸ hp), ⟨'\n', hnl, newline_not_plain⟩, hnl⟩ ⟨ne_dedent_of_xmlTextOk hsl hx, hb⟩
    (by rw [hss]; exact hx)
  rwa [hss] at this

/-- The reading half: `s` stands at `p` in a pre-parsed input (the indentation the stylesheet wrote before
it has become INDENT/DEDENT lines). `Char.ofNat 15` is `dedentChar`, parser.py's `DEDENT`; `h15` follows from `hx`
(`ne_dedent_of_xmlTextOk`). -/
theorem C05_plain_paragraph_round_trip (u : Uris) (parent : Option String) (st : GenState)
    (s : String) (f : Char) (r : List Char) (hsl : s.toList = f :: r)
    (hp : ∀ c ∈ s.toList, isPlain c = true) (hx : xmlTextOk s = true)
    (h15 : f ≠ Char.ofNat 15) (hb : blockChoosesLine f = true)
    (inp : Array Char) (p : Nat)
    (hin : ∀ i (h : i < (f :: r).length), inp[p + i]? = some (f :: r)[i]) (hnl : inp[p + (f :: r).length]? = some '\n') :
    ∃ t, (∀ rule ∈ blockLevelRules, Lim aknExec inp (.ref rule) p (.ok t)) ∧
      ∀ k k2, (itemToXml u parent (k2 + 3) (toDict inp (k + 2) t) st).1 = .ok (.elem "p" [] [.text s]) :=
  plain_paragraph_read_back u parent st s f r hsl hp hx hb inp p hin hnl

/-- the hypotheses are met by everyday text -/
example : (∀ c ∈ "the quick (brown) fox, 1.2 - jumps".toList, safeChar c = true ∧ isPlain c = true) ∧
    xmlTextOk "the quick (brown) fox, 1.2 - jumps" = true ∧ blockChoosesLine 't' = true ∧ isXmlWs 't' = false := by
  decide +kernel

end Bluebell
