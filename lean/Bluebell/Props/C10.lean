import Bluebell.Exec
import Bluebell.Lemmas.Scan  -- `rx1_equiv_plus` and `scanCls_spec` are audited through this module by the check of C10
/-!
# C10 — the shipped parser recognises exactly the language of the PEG grammar

* `compiled_eq_source` — the grammar decompiled from the generated parser `akn.py` (translator T2)
  is, rule for rule, label for label, type for type, the grammar read from `akn.peg` (T1).
  Both sides are regenerated from the repository on every run; the kernel compares them.
* `override_class_eq` + `rx1_equiv_plus` — parser.py's hand-optimised plain-text rule (one regular
  expression match of `[class]+`) covers exactly the span that the generated loop for the grammar's
  `[class]+` covers, for every input (`Lemmas/Scan.lean`), and the class of `Parser.NON_INLINE_START_RE` is the
  grammar's class.
* `markers_match` — `INDENT`/`DEDENT` of parser.py are the terminals of the grammar's `indent` /
  `dedent` rules.
* `exec_differs_only_at_plain_text` — the grammar the model executes is the decompiled one except at that rule.
What is *not* proved here: that canopy's code templates implement PEG semantics (that is the
parse stage of the correspondence check, run for every rule as a start symbol).
-/
namespace Bluebell

theorem compiled_eq_source : aknCompiled = aknSource := by decide +kernel

theorem classCheck_sound (g : Grammar) (n : Bool) (c : List Char) (h : classCheck g n c = true) :
    ∃ neg cs, g.lookup plainTextRule = some (.plus (.cls neg cs)) ∧
      ∀ x, clsMatch neg cs x = clsMatch n c x := by
  unfold classCheck at h
  split at h
  next neg cs heq =>
    simp only [Bool.and_eq_true, beq_iff_eq, List.all_eq_true] at h
    obtain ⟨⟨rfl, h1⟩, h2⟩ := h
    refine ⟨neg, cs, heq, fun x => ?_⟩
    -- each list is contained in the other
    have : cs.contains x = c.contains x :=
      Bool.eq_iff_iff.2 ⟨fun hx => h1 x (by simpa using hx), fun hx => h2 x (by simpa using hx)⟩
    rw [clsMatch, clsMatch, this]
  next => cases h

theorem override_class_eq :
    ∃ neg cs, aknSource.lookup plainTextRule = some (.plus (.cls neg cs)) ∧
      ∀ c, clsMatch neg cs c = clsMatch overrideNeg overrideCls c :=
  classCheck_sound aknSource overrideNeg overrideCls (by decide +kernel)

theorem markers_match :
    aknSource.lookup "indent" = some (.seq (.cons [] (.lit [indentChar]) (.cons ["eol"] (.ref "eol") .nil))) ∧
    aknSource.lookup "dedent" = some (.seq (.cons [] (.lit [dedentChar]) (.cons ["eol"] (.ref "eol") .nil))) := by
  decide +kernel

theorem exec_differs_only_at_plain_text (n : String) (h : n ≠ plainTextRule) :
    aknExec.lookup n = aknCompiled.lookup n :=
  lookup_applyOverride aknCompiled n h

-- non-vacuity: the plain-text rule really is evaluated by one scan in the executed grammar,
-- and a non-trivial input is consumed identically by both forms
example : aknExec.lookup plainTextRule = some (.rx1 overrideNeg overrideCls) := by decide +kernel
example : (match eval aknExec "abc*".toList.toArray 10 (.ref plainTextRule) 0 with | .ok t => t.stop | _ => 0) = 3 ∧
          (match eval aknSource "abc*".toList.toArray 10 (.ref plainTextRule) 0 with | .ok t => t.stop | _ => 0) = 3 := by
  decide +kernel

end Bluebell
