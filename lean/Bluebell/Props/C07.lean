import Bluebell.Lemmas.EidInv
/-!
# C07 — every identifiable element gets exactly one eId, unique in the document

Model: `rewriteEid` / `rewriteAll` (tied to `IdGenerator.rewrite_all_eids` by the `eids` stage of the
correspondence check; `post_process` makes exactly this call on the finished tree, and only
`set_attachment_titles`, which touches no eId, comes after it).

* `C07_ensureUnique_fresh` — for every counter state, candidate and `nn` flag, `ensure_unique`
  (with the fuel `get_eid` passes — i.e. it terminates) returns an id that had never been issued,
  marks it issued, never decreases a count, and extends the candidate.
* `C07_unique` — for every tree, prefix and rewriter state, the eIds assigned in one pass are pairwise
  distinct and were never issued before (invariant `PassInv`); `C07_unique_all`: the same for `rewrite_all_eids`.
* `C07_presence` — an element gets an eId iff its tag is in neither exemption set and it is outside
  meta; the attributes of the others, and everything inside meta, are left exactly as they were.
* `C07_format` — the id is `prefix__alias_num…`: it starts with the caller's prefix and is not empty.
* `C07_cleanNum_no_whitespace` — the cleaned number contains no character of the (regenerated) class of
  `whitespace_re`; `C07_whitespace_class_is_python_s`: that class contains every code point Python's `\s` matches
  (table of the running interpreter), hence `C07_cleanNum_no_python_whitespace`.
* `C07_counterexample_exempt_keeps_eid` — the *full* statement also says exempt elements carry no
  eId; an eId that was already there (e.g. written by the user as `TC{eId foo}`) survives: finding F12.
* `C07_tables` — the regenerated exemption / pass-through / num-expected sets are the ones the
  property names.
-/
namespace Bluebell

theorem C07_ensureUnique_fresh (m : List (String × Nat)) (eid : String) (nn : Bool) :
    Fresh m (ensureUnique (m.length + 2) m eid nn).1 eid (ensureUnique (m.length + 2) m eid nn).2 :=
  ensureUnique_fresh' m eid nn

theorem C07_unique (x : Xml) (pfx : String) (s : IdState) :
    (assignedIds (rewriteEid x pfx s).1).Nodup ∧
    ∀ id ∈ assignedIds (rewriteEid x pfx s).1, countOf s.eidCounter id = 0 :=
  ⟨(rewriteEid_inv x pfx s).nodup, fun id h => ((rewriteEid_inv x pfx s).fresh id h).1⟩

theorem C07_unique_all (x : Xml) (pfx : String) : (assignedIds (rewriteAll x pfx).1).Nodup :=
  (C07_unique x pfx {}).1

theorem C07_presence (tag : String) (attrs : List (String × String)) (kids : List Xml) (pfx : String) (s : IdState) :
    (tag = "meta" → (rewriteEid (.elem tag attrs kids) pfx s).1 = .elem tag attrs kids) ∧
    (tag ≠ "meta" → identifiable tag = false →
      (rewriteEid (.elem tag attrs kids) pfx s).1.attrs = attrs) ∧
    (tag ≠ "meta" → identifiable tag = true →
      ((rewriteEid (.elem tag attrs kids) pfx s).1.attrs.lookup "eId").getD "" = (s.getEid pfx tag (numOf kids)).2) := by
  refine ⟨?_, fun _ => rewriteEid_attrs, fun _ => rewriteEid_eId⟩
  rintro rfl
  rw [rewriteEid_meta]

theorem C07_format (s : IdState) (pfx name num : String) :
    (∃ rest, (s.getEid pfx name num).2 = (if pfx ≠ "" then pfx ++ "__" else "") ++ aliasOf name ++ "_" ++ rest) ∧
    (s.getEid pfx name num).2 ≠ "" := by
  obtain ⟨suf, hs⟩ := (getEid_spec s pfx name num).1.extends_candidate
  rw [hs]
  refine ⟨⟨(s.getNum pfx name num).2.1 ++ suf, String.append_assoc ..⟩, fun h => ?_⟩
  have := congrArg String.length h
  simp only [String.length_append, length_underscore, String.length_empty] at this
  omega

theorem C07_cleanNum_no_whitespace (num : String) :
    ∀ c ∈ (cleanNum num).toList, inRanges eidWsRanges c = false := by
  intro c hc
  unfold cleanNum at hc
  simp only [String.toList_ofList] at hc
  rcases List.mem_cons.mp (collapsePunctAux_subset _ _ hc) with h | h
  · rw [h]; decide
  · have := (List.mem_filter.mp h).2
    simpa using this

theorem C07_whitespace_class_is_python_s :
    pyReSpaceCodes.all (fun n => eidWsRanges.any fun (lo, hi) => lo ≤ n && n ≤ hi) = true := by decide +kernel

theorem C07_cleanNum_no_python_whitespace (num : String) :
    ∀ c ∈ (cleanNum num).toList, pyReSpaceCodes.contains c.toNat = false := by
  intro c hc
  refine Bool.eq_false_iff.mpr fun hm => ?_
  have := List.all_eq_true.mp C07_whitespace_class_is_python_s c.toNat (by simpa using hm)
  exact Bool.false_ne_true ((C07_cleanNum_no_whitespace num c hc).symm.trans this)

theorem C07_counterexample_exempt_keeps_eid :
    ((rewriteAll (.elem "td" [("eId", "foo")] [.elem "p" [] [.text "x"]]) "").1.attrs.lookup "eId") = some "foo" := by
  decide +kernel

def specExempt : List String :=
  ["abbr", "act", "akomaNtoso", "amendment", "amendmentBody", "amendmentList", "attachments", "b", "bill", "body",
   "br", "collectionBody", "components", "content", "coverPage", "debate", "debateBody", "debateReport", "del", "doc",
   "documentCollection", "heading", "i", "img", "inline", "ins", "judgment", "judgmentBody", "mainBody", "meta", "num",
   "officialGazette", "portion", "portionBody", "remark", "span", "statement", "sub", "subheading", "sup", "td", "th",
   "tr", "u"]
def specPassThrough : List String :=
  ["arguments", "background", "conclusions", "decision", "header", "intro", "introduction", "motivation", "preamble",
   "preface", "remedies", "wrapUp"]
def specNumExpected : List String :=
  ["alinea", "article", "book", "chapter", "clause", "division", "indent", "item", "level", "list", "paragraph", "part",
   "point", "proviso", "rule", "section", "subchapter", "subclause", "subdivision", "sublist", "subparagraph", "subpart",
   "subrule", "subsection", "subtitle", "title", "tome", "transitional"]

theorem C07_tables :
    idExempt = specExempt ∧ idPassThrough.map (·.1) = specPassThrough ∧ numExpected = specNumExpected := by
  decide +kernel

-- non-vacuity: two sections with the same number really collide and are separated
example : assignedIds (rewriteAll (.elem "body" [] [.elem "section" [] [.elem "num" [] [.text "1."]],
    .elem "section" [] [.elem "num" [] [.text "1"]]]) "").1 = ["sec_1", "sec_1_2"] := by decide +kernel

end Bluebell
