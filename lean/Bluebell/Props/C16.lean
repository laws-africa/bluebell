import Bluebell.Props.Common
/-!
# C16 — results depend only on the arguments, not on what was parsed before

Model: `stepCall` / `runCalls` — the calls made on one parser object (`convert` = `parse_to_xml` /
`xml_from_dict`, `rewrite` = `generator.ids.rewrite_all_eids`, `pure` = `parse`, `unparse`, `pre_parse`)
thread the generator state `GenState` (the `IdGenerator` maps; the `attachment_names` stack is a
parameter of the recursion, see `ToXml.lean`). Every real history is replayed through `runCalls` by the
tie, calls that raise included.

After the repair of F15/F28 (`xml_from_tree` resets the id generator first) the **full statement is a
theorem**:
* `C16_xmlFromDict_ignores_state`, `C16_convert_ignores_state` — `xml_from_dict`, and with it a conversion, returns
  the same result from every generator state; `C16_rewrite_ignores_state` — so does `rewrite_all_eids`;
  `C16_pure_calls_keep_state` — `parse`, `unparse`, `pre_parse` leave the state alone;
* `C16_history_independent` — after *any* history of calls (succeeding or raising), the probe
  conversion equals the conversion on a fresh object;
* `C16_objects_independent` — objects share nothing in the model: the state of one is not an argument of a step on
  another, so the statement holds by `rfl` (the absence of module-level and class-level mutable state in the Python
  code is checked by attribute snapshots, and thread scheduling inside lxml is outside the model).
`C16_old_behaviour_leaked` records, as a kernel-evaluated fact about the first stage without the reset
(`xmlFromDictOld`), the leak that made the full statement false before the repair.
-/
namespace Bluebell

theorem C16_xmlFromDict_ignores_state (u : Uris) (pfx : String) (item : Item) (isRoot : Bool) (s t : GenState) :
    (xmlFromDict u pfx item isRoot s).1 = (xmlFromDict u pfx item isRoot t).1 := rfl

theorem C16_convert_ignores_state (u : Uris) (pfx text root : String) (st : GenState) :
    (convertWith u pfx text root st).1 = convert u pfx text root := by
  unfold convert convertWith
  cases parseText text root with
  | error e => rfl
  | ok p =>
    simp only
    split
    · rfl
    · exact C16_xmlFromDict_ignores_state ..

theorem C16_history_independent (u : Uris) (pfx : String) (history : List Call) (text root : String) :
    (convertWith u pfx text root (runCalls u pfx {} history).2).1 = convert u pfx text root :=
  C16_convert_ignores_state u pfx text root _

theorem C16_rewrite_ignores_state (u : Uris) (pfx : String) (x : Xml) (p : String) (s t : GenState) :
    (match (stepCall u pfx s (.rewrite x p)).1, (stepCall u pfx t (.rewrite x p)).1 with
     | .rewritten a m, .rewritten b n => a = b ∧ m = n
     | _, _ => False) := ⟨rfl, rfl⟩

theorem C16_pure_calls_keep_state (u : Uris) (pfx : String) (st : GenState) :
    (stepCall u pfx st .pure).2 = st := rfl

theorem C16_objects_independent (u1 u2 : Uris) (p1 p2 : String) (s1 s2 : GenState) (c1 c2 : Call) :
    let a := stepCall u1 p1 s1 c1
    let b := stepCall u2 p2 s2 c2
    ((stepCall u1 p1 s1 c1).2, (stepCall u2 p2 s2 c2).2) = (a.2, b.2) := rfl

/-- the first stage of `xml_from_dict` (`itemToXml`) on the state it is given, without the reset `xml_from_tree` does -/
def xmlFromDictOld (u : Uris) (item : Item) (st : GenState) : Except Err Xml × GenState :=
  itemToXml u none 100000 item st

def schedItem : Item :=
  .node "element" "attachment" (some [("name", "schedule")])
    (some [.node "element" "mainBody" none (some [.node "content" "p" (some [("1a", "b")]) (some [.text "x"]) none none none none none]) none none none none none])
    none none none none none

/-- F15 before the repair: a conversion that raises inside an attachment leaves the attachment counter behind,
so the same attachment is numbered `schedule_2` by the next, un-reset, build. -/
theorem C16_old_behaviour_leaked :
    let st1 := (xmlFromDictOld testUris schedItem {}).2
    (attachmentName none ({} : GenState) schedItem).2 = "schedule_1" ∧
    (attachmentName none st1 schedItem).2 = "schedule_2" := by
  decide +kernel

-- non-vacuity: a conversion that raises inside an attachment (`1a` is not an attribute name)
example : errOf (convertWith testUris "" "SCHEDULE\n  P{1a b} x\n" "act" {}).1 = some .valueError := by decide +kernel

end Bluebell
