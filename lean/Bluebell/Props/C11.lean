import Bluebell.Lemmas.PreParse
/-!
# C11 — pre-parsing yields a normal form and keeps every line

`preParse n text` is the model of `AkomaNtosoParser.pre_parse` with `indent_size = n`
(tied to the real function by the `preparse` stage of the correspondence check). The output is
described through tokens: `unlines toks` writes every token on its own line, a token being the
INDENT marker, the DEDENT marker or a content line.

* `C11_normal_form`: for **every** text and every `n`, either the text is whitespace-only and the
  result is the empty string, or the result is `unlines toks` where the markers are balanced and
  never close more than is open, every INDENT is directly followed by a non-empty content line,
  the first line is a non-empty content line, no content line contains a newline or a tab or
  begins/ends with a space, and (since `unlines` ends every line with `\n`) the text ends in a newline.
* `C11_lines_kept`: in the same decomposition the content lines are exactly the lines of the
  stripped, de-tabbed input, each trimmed of spaces, in order; and every character of a content
  line comes from the input (or is a space replacing a tab) — so a text free of marker characters
  yields content lines free of them, i.e. the markers are alone on their lines.
* `C11_stack_invariant`: the indentation stack always has the shape `… > 0 > -1` (the `0` entry
  and the sentinel are never popped, so `stack[-1]` never raises).
* `C11_regexes_as_modelled`: the two regular expressions of `pre_parse`, regenerated from parser.py, are the
  ones the model was written against.
-/
namespace Bluebell

structure NormalForm (toks : List Tok) : Prop where
  balanced : finalDepth 0 toks = some 0
  no_empty_block : indOk toks
  first_nonblank : ∃ l ts, toks = .line l :: ts ∧ l ≠ []
  lines_clean : ∀ l ∈ contentLines toks,
    '\n' ∉ l ∧ '\t' ∉ l ∧ l.head? ≠ some ' ' ∧ l.getLast? ≠ some ' '

/-- how `toks` is tied to the text (`C11_lines_kept` states the two facts again, unfolded) -/
def Decomposes (n : Nat) (text : List Char) (toks : List Tok) : Prop :=
  preParse n text = unlines toks ∧
  contentLines toks = (splitLines (pyStrip (detab n text))).map trimSpaces

theorem preParse_blank (n : Nat) (text : List Char) (h : pyStrip (detab n text) = []) :
    preParse n text = [] := by
  unfold preParse
  rw [h]
  decide

theorem trimSpaces_clean {n : Nat} {text : List Char} {l : List Char}
    (hl : l ∈ splitLines (pyStrip (detab n text))) :
    '\n' ∉ trimSpaces l ∧ '\t' ∉ trimSpaces l ∧ (trimSpaces l).head? ≠ some ' ' ∧
      (trimSpaces l).getLast? ≠ some ' ' ∧ ∀ c ∈ trimSpaces l, c ∈ text ∨ c = ' ' := by
  have hsub : ∀ c ∈ trimSpaces l, c ∈ l := by
    intro c hc
    unfold trimSpaces rstripSpaces at hc
    exact dropTrailing_mem _ _ c ((List.dropWhile_sublist _).subset hc)
  have hx : ∀ c ∈ l, c ∈ detab n text := fun c hc => pyStrip_mem _ c (splitLines_mem _ l hl c hc)
  refine ⟨fun h => splitLines_no_nl _ l hl (hsub _ h), fun h => detab_no_tab n text (hx _ (hsub _ h)), ?_, ?_, ?_⟩
  · exact head?_dropWhile_ne _ _ ' ' (by simp)
  · intro h
    exact rstripSpaces_getLast l (getLast?_dropWhile h)
  · intro c hc
    exact detab_mem n text c (hx c (hsub c hc))

/-- The whole of C11 for a text that is not whitespace-only, in one statement. -/
theorem preParse_nonblank (n : Nat) (text : List Char) (h : pyStrip (detab n text) ≠ []) :
    ∃ toks, Decomposes n text toks ∧ NormalForm toks := by
  have hL := linesOf_ensureFinalNewline_stripTrailingSpaces (pyStrip_last h)
  obtain ⟨l0, rest, hM, h0, hh⟩ := first_line_visible (pyStrip_head h)
  have hc : ∀ l ∈ rest, l.getLast? ≠ some ' ' := fun l hl => by
    obtain ⟨l', _, rfl⟩ := List.mem_map.mp (hM ▸ List.mem_cons_of_mem l0 hl)
    exact rstripSpaces_getLast l'
  have hcl : contentLines (midToks l0 rest) = (splitLines (pyStrip (detab n text))).map trimSpaces := by
    rw [contentLines_midToks rest hh, ← hM, List.map_map]; rfl
  refine ⟨midToks l0 rest, ⟨preParse_eq n text (hL.trans hM) h0 hh, hcl⟩,
    finalDepth_midToks l0 rest, indOk_midToks l0 hc, ⟨l0, _, rfl, h0⟩, ?_⟩
  intro l hl
  rw [hcl] at hl
  obtain ⟨l', hl', rfl⟩ := List.mem_map.mp hl
  obtain ⟨a, b, c, d, _⟩ := trimSpaces_clean hl'
  exact ⟨a, b, c, d⟩

theorem C11_normal_form (n : Nat) (text : List Char) :
    (pyStrip (detab n text) = [] ∧ preParse n text = []) ∨
    (pyStrip (detab n text) ≠ [] ∧ ∃ toks, Decomposes n text toks ∧ NormalForm toks) := by
  by_cases h : pyStrip (detab n text) = []
  · exact Or.inl ⟨h, preParse_blank n text h⟩
  · exact Or.inr ⟨h, preParse_nonblank n text h⟩

theorem C11_lines_kept (n : Nat) (text : List Char) (h : pyStrip (detab n text) ≠ []) :
    ∃ toks, preParse n text = unlines toks ∧
      contentLines toks = (splitLines (pyStrip (detab n text))).map trimSpaces ∧
      ∀ l ∈ contentLines toks, ∀ c ∈ l, c ∈ text ∨ c = ' ' := by
  obtain ⟨toks, ⟨h1, h2⟩, _⟩ := preParse_nonblank n text h
  refine ⟨toks, h1, h2, ?_⟩
  intro l hl
  rw [h2] at hl
  obtain ⟨l', hl', rfl⟩ := List.mem_map.mp hl
  exact (trimSpaces_clean hl').2.2.2.2

/-- `[0, -1]` is the state after the first line. `passT_stack` has this from any stack with the invariant, and the
hypothesis on the lines is not needed. -/
theorem C11_stack_invariant (ls : List (List Char)) (h : ∀ l ∈ ls, l.getLast? ≠ some ' ') :
    StackInv (passT ls [0, -1]).2 :=
  (passT_stack ls [0, -1] StackInv.base).1

theorem C11_regexes_as_modelled :
    lineRePattern = "^([ ]*)([^ \\n])" ∧ lineReFlags = "re.M" ∧
    trailingWsRePattern = " +$" ∧ trailingWsReFlags = "re.M" := by decide

-- non-vacuity: over-indent repair and a multi-step dedent, evaluated by the kernel
example : preParse 2 "a\n      b\n    c\n        d\n  e\nf".toList =
    "a\n\x0e\nb\nc\n\x0e\nd\n\x0f\n\x0f\ne\nf\n".toList := by decide +kernel
example : pyStrip (detab 2 "a\n      b\n    c\n        d\n  e\nf".toList) ≠ [] := by decide +kernel
example : preParse 2 " \t\n \n".toList = [] := by decide +kernel

end Bluebell
