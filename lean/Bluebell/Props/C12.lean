import Bluebell.Lemmas.Depth
import Bluebell.Lemmas.Trail
import Bluebell.Lemmas.BlankLines
import Bluebell.Convert
/-!
# C12 — nesting follows indentation order; layout noise is irrelevant

`handleIndent lvl st` is the model of `handle_indent` for a line with `lvl` leading spaces and indentation stack `st`
(top first); its `Prefix` is what is emitted before the line: nothing, one INDENT, or `k` DEDENTs (`delta` = change of
nesting depth).

Full statement (`C12_full`, over the indentation the code sees, i.e. after `strip()`): for consecutive non-empty lines,
more indentation ⇒ depth + 1, equal ⇒ same depth, less ⇒ not deeper. The code compares against the *top of the stack*,
which is not always the previous line's indentation, and departs from the property at two corners:
* F20, a dedent over several levels that lands strictly between two open levels:
  `C12_counterexample_between_levels` proves `¬ C12_full`;
* F13, the first line's own indentation is discarded by `strip()`: `C12_full`, which speaks of the stripped text, does
  not see it; `C12_counterexample_first_line` records it as an evaluation of `preParse`.

Proved for every text:
* depth, relative to the stack top: `C12_more_indented_opens_one`, `C12_same_indent_same_block`,
  `C12_less_indented_not_deeper`, chained over a text in `C12_depth_chain`; `C12_top_is_indent`: the top *is* the
  previous line's indentation whenever that line was indented more than / equal to the top, repaired a single
  over-indent, or dedented onto an open level; `C12_consistent_depth_eq_level`: with `n` spaces per level and never
  more than one level up at a time, the depth of every line is its level;
* layout: `C12_scale_invariant` (multiplying all indentation by `c ≥ 1` gives the same tokens of the indentation pass,
  `passT`); on `preParse`: `C12_tab_is_spaces`, `C12_blank_around` (whitespace around the text), `C12_trailing_spaces`
  (`Pad a b`: `b` is `a` with spaces inserted before newlines or at the end), and from it
  `C12_trailing_spaces_same_document`: the same conversion, result or error, and the same state left behind;
* empty lines between lines: `C12_newlines_are_blank_lines` (`k` newlines after a newline are `k` empty entries of the
  line list and nothing else), `C12_blank_lines_between` (`k` empty lines anywhere change neither the stack left behind
  nor the markers and non-empty lines of the pass), combined in `C12_extra_newlines_between` on the text the pass reads
  (after tab expansion, `strip()` and the removal of trailing spaces). That the grammar then reads the same document is
  covered by the metamorphic oracle, not by a theorem.
-/
namespace Bluebell

/-- C12 at full strength over the model's trace (indent as seen by the code, depth, stack).  The trace starts at depth −1,
so that the first line, more indented than the sentinel, is at depth 0. -/
def C12_full : Prop :=
  ∀ (n : Nat) (text : List Char),
    ∀ a b rest pre, traceLines (normLines n text) [-1] (-1) = pre ++ a :: b :: rest →
      (b.1 > a.1 → b.2.1 = a.2.1 + 1) ∧ (b.1 = a.1 → b.2.1 = a.2.1) ∧ (b.1 < a.1 → b.2.1 ≤ a.2.1)

theorem C12_more_indented_opens_one (lvl t : Int) (r : List Int) (h : lvl > t) :
    handleIndent lvl (t :: r) = (lvl :: t :: r, .indent) := handleIndent_more h

theorem C12_same_indent_same_block (t : Int) (r : List Int) :
    handleIndent t (t :: r) = (t :: r, .same) := handleIndent_same t r

theorem C12_less_indented_not_deeper (lvl t : Int) (r : List Int) (h : lvl < t) :
    (handleIndent lvl (t :: r)).2.delta ≤ 0 ∧ (handleIndent lvl (t :: r)).2 ≠ .indent :=
  have hd := handleIndent_less_delta lvl t r h
  ⟨hd, fun e => by simp [e, Prefix.delta] at hd⟩

theorem C12_depth_chain (n : Nat) (text : List Char) :
    chainFrom [-1] (-1) (traceLines (normLines n text) [-1] (-1)) :=
  trace_chain _ _ _

theorem C12_top_is_indent (lvl t : Int) (r : List Int) (hp : (t :: r).Pairwise (· > ·))
    (h : lvl ≥ t ∨ lvl ∈ r ∨ (∃ t2 r2, r = t2 :: r2 ∧ lvl > t2)) :
    (handleIndent lvl (t :: r)).1.head? = some lvl := by
  rcases Int.lt_trichotomy lvl t with hlt | rfl | hgt
  · obtain ⟨t2, r2, rfl⟩ : ∃ t2 r2, r = t2 :: r2 := by
      rcases h with h | h | ⟨t2, r2, e, _⟩
      · omega
      · cases r with
        | nil => cases h
        | cons t2 r2 => exact ⟨t2, r2, rfl⟩
      · exact ⟨t2, r2, e⟩
    rw [handleIndent_less hlt]
    split
    · rfl
    · rename_i h3
      rcases h with h | h | ⟨_, _, e, h⟩
      · omega
      · exact head?_dropWhile_of_mem hp (List.mem_cons_of_mem _ h)
      · cases e; exact absurd h h3
  · rw [handleIndent_same]; rfl
  · rw [handleIndent_more hgt]; rfl

-- non-vacuity of `C12_top_is_indent` and the depth clauses on a concrete stack
example : (handleIndent 4 [8, 4, 0, -1]).1.head? = some 4 :=
  C12_top_is_indent 4 8 [4, 0, -1] (by decide) (Or.inr (Or.inl (by decide)))
example : (handleIndent 2 [8, 4, 0, -1]) = ([0, -1], .dedent 2) := by decide

theorem C12_consistent_depth_eq_level (n : Nat) (hn : 1 ≤ n) (items : List (Nat × List Char)) (cur : Nat)
    (hw : Walk cur (items.map (·.1))) (hb : ∀ it ∈ items, it.2 ≠ [] ∧ it.2.head? ≠ some ' ') :
    (traceLines (items.map fun it => List.replicate (n * it.1) ' ' ++ it.2) (levelStack n cur) cur).map (·.2.1)
      = items.map fun it => (it.1 : Int) := by
  induction items generalizing cur with
  | nil => rfl
  | cons it items ih =>
    obtain ⟨hne, hhd⟩ := hb it (List.mem_cons_self ..)
    simp only [List.map_cons, Walk] at hw
    have hl : ¬ (List.replicate (n * it.1) ' ' ++ it.2 = []) := by
      intro e; exact hne (List.append_eq_nil_iff.mp e).2
    have hk : leadingSpaces (List.replicate (n * it.1) ' ' ++ it.2) = n * it.1 :=
      leadingSpaces_spaces_append _ _ hhd
    obtain ⟨e1, e2⟩ := handleIndent_levelStack n hn cur it.1 hw.1
    simp only [List.map_cons, traceLines, hl, if_false, hk, e1, e2]
    have := ih it.1 hw.2 (fun x hx => hb x (List.mem_cons_of_mem _ hx))
    have hd : (cur : Int) + ((it.1 : Int) - cur) = it.1 := by omega
    rw [hd, this]

/-- F13: `" a\n b"` — both lines indented by one space, yet the second is nested. -/
theorem C12_counterexample_first_line :
    preParse 2 " a\n b\n".toList = "a\n\x0e\nb\n\x0f\n".toList := by decide +kernel

/-- F20: indentation 0,4,8,2,2 — the last two lines are equally indented, yet the last one is nested one deeper. -/
theorem C12_counterexample_between_levels : ¬ C12_full := by
  intro h
  have := h 2 "a\n    b\n        c\n  d\n  e\n".toList (2, 0, [0, -1]) (2, 1, [2, 0, -1]) []
    [(0, 0, [0, -1]), (4, 1, [4, 0, -1]), (8, 2, [8, 4, 0, -1])] (by decide +kernel)
  have := this.2.1 rfl
  simp at this

theorem C12_scale_invariant (c : Nat) (hc : 1 ≤ c) (ls : List (List Char)) (st : List Int) :
    (passT (ls.map (scaleLine c)) (st.map (scaleLevel c))).1 = (passT ls st).1 := by
  rw [passT_scale c hc]

theorem C12_tab_is_spaces (n : Nat) (a b : List Char) :
    preParse n (a ++ '\t' :: b) = preParse n (a ++ List.replicate n ' ' ++ b) := by
  unfold preParse
  rw [detab_tab]

theorem C12_blank_around (n : Nat) (a y b : List Char)
    (ha : ∀ c ∈ a, isPySpace c = true) (hb : ∀ c ∈ b, isPySpace c = true) :
    preParse n (a ++ y ++ b) = preParse n y := by
  unfold preParse
  rw [detab_append, detab_append,
    pyStrip_around _ _ _ (detab_all_space n a ha) (detab_all_space n b hb)]

theorem C12_trailing_spaces (n : Nat) (a b : List Char) (h : Pad a b) : preParse n b = preParse n a :=
  pad_preParse n h

theorem C12_trailing_spaces_same_document (u : Uris) (pfx root : String) (st : GenState) (a b : List Char) (h : Pad a b) :
    convertWith u pfx (String.ofList b) root st = convertWith u pfx (String.ofList a) root st := by
  unfold convertWith parseText
  simp only [String.toList_ofList]
  rw [pad_preParse indentSizeDefault h]

-- the relation is inhabited by the expected pairs
example : Pad "a\n  b\nc".toList "a  \n  b \nc   ".toList :=
  .cons 'a' (.nl 2 (.cons ' ' (.cons ' ' (.cons 'b' (.nl 1 (.cons 'c' (.done 3)))))))
example : preParse 2 "a  \n  b \nc   ".toList = preParse 2 "a\n  b\nc".toList := by decide +kernel

theorem C12_newlines_are_blank_lines (k : Nat) (a b : List Char) :
    splitLines (a ++ '\n' :: (List.replicate k '\n' ++ b)) = splitLines a ++ List.replicate k [] ++ splitLines b := by
  rw [splitLines_append_nl, splitLines_replicate_nl, List.append_assoc]

theorem C12_blank_lines_between (k : Nat) (a b : List (List Char)) (st : List Int) :
    visible (passT (a ++ List.replicate k [] ++ b) st).1 = visible (passT (a ++ b) st).1 ∧
    (passT (a ++ List.replicate k [] ++ b) st).2 = (passT (a ++ b) st).2 := by
  simp only [passT_append, passT_emptyLines, visible_append, visible_emptyLines, List.append_nil, and_self]

theorem C12_extra_newlines_between (k : Nat) (a b : List Char) (st : List Int) :
    visible (passT (linesOf (a ++ '\n' :: (List.replicate k '\n' ++ b))) st).1 = visible (passT (linesOf (a ++ '\n' :: b)) st).1 ∧
    (passT (linesOf (a ++ '\n' :: (List.replicate k '\n' ++ b))) st).2 = (passT (linesOf (a ++ '\n' :: b)) st).2 := by
  have hL : ∀ k, linesOf (a ++ '\n' :: (List.replicate k '\n' ++ b)) = splitLines a ++ List.replicate k [] ++ linesOf b :=
    fun k => by
      rw [linesOf, C12_newlines_are_blank_lines, List.dropLast_append_of_ne_nil (splitLines_ne_nil b)]; rfl
  have h0 := hL 0
  simp only [List.replicate_zero, List.nil_append, List.append_nil] at h0
  rw [hL k, h0]
  exact C12_blank_lines_between k (splitLines a) (linesOf b) st

-- non-vacuity: a nested block split by two empty lines
example : visible (passT ["a".toList, [], [], "  b".toList, "c".toList] [-1]).1
    = [.ind, .line "a".toList, .ind, .line "b".toList, .ded, .line "c".toList] := by decide +kernel

end Bluebell
