import Bluebell.Props.C03
/-!
# C04 — documented markup yields the documented element tree

Finite-table theorems over data regenerated from the repository (grammar, types.py):
* `C04_hier_keyword_table` — the 27 hierarchical keywords and 7 synonyms of the grammar map, through
  lower-casing and the synonym table of types.py, to exactly the prescribed AKN element names;
* `C04_speech_keyword_table` — the 20 speech-container keywords, 4 speech-group keywords and 3 speech
  block keywords map to their camel-case AKN names;
* `C04_attachment_keywords` — the attachment keywords are ATTACHMENT, APPENDIX, SCHEDULE, ANNEXURE;
* `C04_inline_defaults`, `C04_table_cells` — inline element names and default attributes, TH/TC.
Kernel-evaluated instances:
* `C04_heading_split` — the five documented header forms (`num - heading`, `- heading`, `num`, `num -`,
  no header) and an escaped dash in a num;
* `C04_examples` — a document using hierarchy with intro / hcontainer / wrapUp grouping, lists, a table,
  inline forms with attributes and class syntax: the body equals the prescribed tree.
Grammar-level, for every text and offset:
* `C04_plain_line_is_a_p`, `C04_escaped_line_is_a_p` — a line of plain text, and a line written with every
  character escaped, are read by every block-level rule as the dict item of a paragraph holding exactly that
  text, and the XML generator turns that item into `<p>text</p>` (`C04_p_item_to_xml`).
The statement for every abstract document is decided on the real code by the specification oracle
(harness/absdoc.py: independent printer + prescribed tree, whole vocabulary, seven roots); the structural
induction over abstract documents is not yet a theorem.
-/
namespace Bluebell

def specHier : List (String × String) :=
  [("ALINEA", "alinea"), ("ARTICLE", "article"), ("BOOK", "book"), ("CHAPTER", "chapter"), ("CLAUSE", "clause"), ("DIVISION", "division"),
   ("INDENT", "indent"), ("LEVEL", "level"), ("LIST", "list"), ("PARAGRAPH", "paragraph"), ("PART", "part"), ("POINT", "point"),
   ("PROVISO", "proviso"), ("RULE", "rule"), ("SECTION", "section"), ("SUBCHAPTER", "subchapter"), ("SUBCLAUSE", "subclause"),
   ("SUBDIVISION", "subdivision"), ("SUBLIST", "sublist"), ("SUBPARAGRAPH", "subparagraph"), ("SUBPART", "subpart"), ("SUBRULE", "subrule"),
   ("SUBSECTION", "subsection"), ("SUBTITLE", "subtitle"), ("TITLE", "title"), ("TOME", "tome"), ("TRANSITIONAL", "transitional"),
   ("ART", "article"), ("CHAP", "chapter"), ("PARA", "paragraph"), ("SEC", "section"), ("SUBCHAP", "subchapter"), ("SUBPARA", "subparagraph"),
   ("SUBSEC", "subsection")]

def elementFor (syn : List (String × String)) (kw : String) : String := (syn.lookup (asciiLower kw)).getD (asciiLower kw)

theorem C04_hier_keyword_table :
    (ruleLits aknSource "hier_element_name").map (fun kw => (kw, elementFor hierSynonyms kw)) = specHier := by
  decide +kernel

def specSpeech : List (String × String) :=
  [("ADDRESS", "address"), ("ADJOURNMENT", "adjournment"), ("ADMINISTRATIONOFOATH", "administrationOfOath"), ("COMMUNICATION", "communication"),
   ("DEBATESECTION", "debateSection"), ("DECLARATIONOFVOTE", "declarationOfVote"), ("MINISTERIALSTATEMENTS", "ministerialStatements"),
   ("NATIONALINTEREST", "nationalInterest"), ("NOTICESOFMOTION", "noticesOfMotion"), ("ORALSTATEMENTS", "oralStatements"), ("PAPERS", "papers"),
   ("PERSONALSTATEMENTS", "personalStatements"), ("PETITIONS", "petitions"), ("POINTOFORDER", "pointOfOrder"), ("PRAYERS", "prayers"),
   ("PROCEDURALMOTIONS", "proceduralMotions"), ("QUESTIONS", "questions"), ("RESOLUTIONS", "resolutions"), ("ROLLCALL", "rollCall"),
   ("WRITTENSTATEMENTS", "writtenStatements")]

theorem C04_speech_keyword_table :
    (ruleLits aknSource "speech_container_name").map (fun kw => (kw, elementFor speechSynonyms kw)) = specSpeech ∧
    (ruleLits aknSource "speech_group_name").map (fun kw => (kw, elementFor speechGroupSynonyms kw)) =
      [("SPEECHGROUP", "speechGroup"), ("SPEECH", "speech"), ("QUESTION", "question"), ("ANSWER", "answer")] ∧
    (ruleLits aknSource "speech_block_name").map asciiLower = ["scene", "narrative", "summary"] := by
  decide +kernel

theorem C04_attachment_keywords :
    ruleLits aknSource "attachment_marker" = ["ATTACHMENT", "APPENDIX", "SCHEDULE", "ANNEXURE"] := by decide +kernel

theorem C04_inline_defaults :
    inlineTable = [("Bold", "b", []), ("Italics", "i", []), ("Ref", "ref", []), ("Remark", "remark", [("status", "editorial")]),
                   ("Sub", "sub", []), ("Sup", "sup", []), ("Underline", "u", [])] ∧
    stdInlineDefaults = [("abbr", [("title", "")]), ("term", [("refersTo", "")]), ("inline", [("name", "inline")])] ∧
    ruleLits aknSource "standard_inline_marker" = ["abbr", "def", "em", "inline", "term", "-", "+"] := by decide +kernel

theorem C04_table_cells : tableCellNames = [("TH", "th"), ("TC", "td")] := by decide +kernel

/-- body of a converted document with eIds dropped (`none` on error) -/
def bodyOf (r : Except Err Xml) : Option Xml :=
  match r with
  | .ok (.elem "akomaNtoso" _ [.elem _ _ (_ :: body :: _)]) => some (dropEids body)
  | _ => none

def eqBody (r : Except Err Xml) (x : Xml) : Bool := match bodyOf r with | some b => Xml.beq b x | none => false

theorem C04_heading_split :
    eqBody (convert testUris "" "SEC 1 - Heading\nSEC - Only heading\nSEC 2\nSEC 3 -\nSEC\nSEC 1\\-2 - x\n" "act")
      (.elem "body" [] [
        .elem "section" [] [.elem "num" [] [.text "1"], .elem "heading" [] [.text "Heading"]],
        .elem "section" [] [.elem "heading" [] [.text "Only heading"]],
        .elem "section" [] [.elem "num" [] [.text "2"]],
        .elem "section" [] [.elem "num" [] [.text "3"]],
        .elem "section" [] [],
        .elem "section" [] [.elem "num" [] [.text "1-2"], .elem "heading" [] [.text "x"]]]) = true := by
  decide +kernel

theorem C04_examples :
    eqBody (convert testUris "" "PART.a.b{status editorial} 1 - The Part\n  SUBHEADING Sub\n  intro text\n  SEC 1.\n    {{term{refersTo #t} Term}} and {{abbr{title Laws} LA}} {{em e}} {{+i}}{{-d}}\n  between\n  CHAP 2\n    ITEMS\n      lead\n      ITEM (a) - ih\n        x\n      tail\n  CROSSHEADING ch\n  TABLE\n    TR\n      TH{colspan 2}\n        h\n      TC\n        c\n" "act")
      (.elem "body" [] [
        .elem "part" [("status", "editorial"), ("class", "a b")] [
          .elem "num" [] [.text "1"], .elem "heading" [] [.text "The Part"], .elem "subheading" [] [.text "Sub"],
          .elem "intro" [] [.elem "p" [] [.text "intro text"]],
          .elem "section" [] [.elem "num" [] [.text "1."], .elem "content" [] [.elem "p" [] [
            .elem "term" [("refersTo", "#t")] [.text "Term"], .text " and ", .elem "abbr" [("title", "Laws")] [.text "LA"], .text " ",
            .elem "inline" [("name", "em")] [.text "e"], .text " ", .elem "ins" [] [.text "i"], .elem "del" [] [.text "d"]]]],
          .elem "hcontainer" [("name", "hcontainer")] [.elem "content" [] [.elem "p" [] [.text "between"]]],
          .elem "chapter" [] [.elem "num" [] [.text "2"], .elem "content" [] [.elem "blockList" [] [
            .elem "listIntroduction" [] [.text "lead"],
            .elem "item" [] [.elem "num" [] [.text "(a)"], .elem "heading" [] [.text "ih"], .elem "p" [] [.text "x"]],
            .elem "listWrapUp" [] [.text "tail"]]]],
          .elem "crossHeading" [] [.text "ch"],
          .elem "wrapUp" [] [.elem "table" [] [.elem "tr" [] [
            .elem "th" [("colspan", "2")] [.elem "p" [] [.text "h"]], .elem "td" [] [.elem "p" [] [.text "c"]]]]]]]) = true := by
  decide +kernel

/-! ## Paragraphs, at the grammar level -/

theorem C04_p_item_to_xml (u : Uris) (parent : Option String) (fuel : Nat) (s : String) (st : GenState)
    (hs : xmlTextOk s = true) (hne : s ≠ "") :
    (itemToXml u parent (fuel + 3) (.node "content" "p" none (some [Item.text s]) none none none none none) st).1
      = .ok (.elem "p" [] [.text s]) :=
  itemToXml_p u parent fuel s st hs hne

theorem C04_plain_line_is_a_p (inp : Array Char) (p : Nat) (c : Char) (r : List Char)
    (h : AtPlain inp p (c :: r)) (hc : c ≠ Char.ofNat 15) (hb : blockChoosesLine c = true) :
    ∃ t, (∀ fuel, toDict inp (fuel + 2) t
            = .node "content" "p" none (some [Item.text (String.ofList (c :: r))]) none none none none none) ∧
      ∀ rule ∈ blockLevelRules, Lim aknExec inp (.ref rule) p (.ok t) :=
  C03_plain_line_is_its_text inp p c r h hc hb

theorem C04_escaped_line_is_a_p (inp : Array Char) (p : Nat) (c : Char) (w : List Char) (h : AtEsc inp p (c :: w)) :
    ∃ t, (∀ fuel, toDict inp (fuel + 2) t
            = .node "content" "p" none (some [Item.text (String.ofList (c :: w))]) none none none none none) ∧
      ∀ r ∈ blockLevelRules, Lim aknExec inp (.ref r) p (.ok t) :=
  C13_block_level_reads_escaped_line inp p c w h

end Bluebell
