import Bluebell.Lemmas.PegLim
/-!
`Reads g inp e p q`: `e` succeeds at `p` and stops at `q`.  An acceptance proof needs the offsets and nothing else of the
tree, so sequences compose by offsets alone (`SeqTo`) and `*`/`+` loops by a chain of offsets (`Reps`): a success needs no
accumulator, label or tree outside this file.  There is no such form for a sequence that fails; that is still said with `LimS`.
-/
namespace Bluebell

def Reads (g : Grammar) (inp : Array Char) (e : PExp) (p q : Nat) : Prop :=
  ∃ t, Lim g inp e p (.ok t) ∧ t.stop = q

/-- `s i ls acc`: any state of the enclosing sequence. -/
def SeqTo (g : Grammar) (inp : Array Char) (es : PItems) (p q : Nat) : Prop :=
  ∀ s i ls acc, ∃ t, LimS g inp es s p i ls acc (.ok t) ∧ t.stop = q

inductive Reps (g : Grammar) (inp : Array Char) (e : PExp) : Nat → Nat → Nat → Prop
  | nil (p : Nat) : Reps g inp e p p 0
  | cons {p m q n : Nat} : Reads g inp e p m → p < m → Reps g inp e m q n → Reps g inp e p q (n + 1)

variable {g : Grammar} {inp : Array Char} {A ty : String} {e e' : PExp} {es : PExps} {is : PItems}
  {names : List String} {p m q n min : Nat}

theorem seqTo_nil : SeqTo g inp .nil p p := fun _ _ _ _ => ⟨_, limS_nil, rfl⟩

theorem seqTo_cons (h : Reads g inp e p m) (hr : SeqTo g inp is m q) : SeqTo g inp (.cons names e is) p q := by
  intro s i ls acc
  obtain ⟨t, ht, rfl⟩ := h
  obtain ⟨t', ht', hq⟩ := hr s (i + 1) (addLabels ls names i) (t :: acc)
  exact ⟨t', limS_cons_ok ht ht', hq⟩

theorem reads_seq (h : SeqTo g inp is p q) : Reads g inp (.seq is) p q := by
  obtain ⟨t, ht, hq⟩ := h p 0 [] []
  exact ⟨t, lim_seq ht, hq⟩

theorem reads_ref (hl : g.lookup A = some e) (h : Reads g inp e p q) : Reads g inp (.ref A) p q := by
  obtain ⟨t, ht, hq⟩ := h
  exact ⟨t, lim_ref hl ht, hq⟩

theorem reads_typed (h : Reads g inp e p q) : Reads g inp (.typed ty e) p q := by
  obtain ⟨t, ht, hq⟩ := h
  exact ⟨_, lim_typed ht, by rw [Tree.stop_addType, hq]⟩

theorem reads_lit {s : List Char} (h : litMatch inp p s = true) : Reads g inp (.lit s) p (p + s.length) :=
  ⟨_, lim_lit_ok h, rfl⟩

theorem reads_opt (h : Reads g inp e p q) : Reads g inp (.opt e) p q := by
  obtain ⟨t, ht, hq⟩ := h
  exact ⟨t, lim_opt_ok ht, hq⟩

theorem reads_opt_skip (h : Lim g inp e p .fail) : Reads g inp (.opt e) p p :=
  ⟨_, lim_opt_fail h, rfl⟩

theorem reads_not (h : Lim g inp e p .fail) : Reads g inp (.notP e) p p :=
  ⟨_, lim_not_fail h, rfl⟩

theorem reads_alt1 (h : Reads g inp e p q) : Reads g inp (.choice (.cons e es)) p q := by
  obtain ⟨t, ht, hq⟩ := h
  exact ⟨t, lim_choice (limC_cons_ok ht), hq⟩

theorem reads_alt2 (hf : Lim g inp e p .fail) (h : Reads g inp e' p q) :
    Reads g inp (.choice (.cons e (.cons e' es))) p q := by
  obtain ⟨t, ht, hq⟩ := h
  exact ⟨t, lim_choice (limC_cons_fail hf (limC_cons_ok ht)), hq⟩

theorem limR_of_reps (hf : Lim g inp e q .fail) (h : Reps g inp e p q n) :
    ∀ (s : Nat) (acc : List Tree), min ≤ acc.length + n →
      ∃ out, LimR g inp e s p acc min (.ok (.node s q [] [] out)) := by
  induction h with
  | nil p => exact fun s acc hm => ⟨acc.reverse, limR_stop hf hm⟩
  | cons hr hlt _ ih =>
    intro s acc hm
    obtain ⟨t, ht, rfl⟩ := hr
    obtain ⟨out, hout⟩ := ih hf s (t :: acc) (by simp only [List.length_cons]; omega)
    exact ⟨out, limR_step ht hlt hout⟩

theorem reads_star (h : Reps g inp e p q n) (hf : Lim g inp e q .fail) : Reads g inp (.star e) p q := by
  obtain ⟨out, h⟩ := limR_of_reps (min := 0) hf h p [] (Nat.zero_le _)
  exact ⟨_, lim_star h, rfl⟩

theorem reads_plus (h : Reps g inp e p q n) (hf : Lim g inp e q .fail) (hn : 1 ≤ n) : Reads g inp (.plus e) p q := by
  obtain ⟨out, h⟩ := limR_of_reps (min := 1) hf h p [] (by simpa using hn)
  exact ⟨_, lim_plus h, rfl⟩

theorem never_refused_of_reads (h : Reads g inp e p q) :
    (∃ n, (eval g inp n e p).done) ∧
    ∀ n, (eval g inp n e p).done → ∃ t, eval g inp n e p = .ok t ∧ t.stop = q := by
  obtain ⟨t, ht, hts⟩ := h
  obtain ⟨n0, h0⟩ := ht
  exact ⟨⟨n0, by rw [h0 n0 (Nat.le_refl _)]; trivial⟩, fun n hd => ⟨t, Lim.eval_eq ⟨n0, h0⟩ hd, hts⟩⟩

end Bluebell
