import Bluebell.Unparse
/-! The equations of `unNode`, `unKids` and `unNotes` that the proofs use are stated here and hold by `rfl`: unfolding
with `simp only [unNode]` makes Lean generate the equation lemmas of the whole mutual block, some 20 s.  Then: when
`replaceAll` and the escaping steps of the stylesheet leave a text alone. -/
namespace Bluebell

theorem unNode_text (fuel : Nat) (ctx : UCtx) (s : String) :
    unNode (fuel + 1) ctx (.text s) =
      if ctx.parent == "remark" && firstElemTag ctx.before == some "br" then escapeInlines (ltrim s)
      else if (ctx.parent == "p" || ctx.parent == "listIntroduction" || ctx.parent == "listWrapUp") && noElems ctx.before then
        escapePrefixes (escapeStartEnd ctx (ltrim s))
      else escapeStartEnd ctx s := rfl

theorem unNode_p (fuel : Nat) (ctx : UCtx) (a : List (String × String)) (ks : List Xml) :
    unNode (fuel + 1) ctx (.elem "p" a ks) =
      (if ctx.parent == "li" && !(ctx.before.any (isElemTag "p")) then "" else indentStr ctx.indent)
        ++ (if a.any (fun (k, _) => k != "eId") then "P" ++ blockAttrsText "p" a ++ " " else "")
        ++ unKids fuel "p" ctx.indent (ctx.pDepth + 1) [] ks ++ "\n" ++ (if ctx.parent == "li" then "" else "\n")
        ++ unNotes fuel ctx.indent (((notesBelowL 0 ks).filter (fun (p : Xml × Nat) => p.2 == 0)).map (·.1)) := rfl

@[simp] theorem unKids_nil (fuel : Nat) (parent : String) (i d : Nat) (before : List Xml) :
    unKids (fuel + 1) parent i d before [] = "" := rfl

@[simp] theorem unKids_cons (fuel : Nat) (parent : String) (i d : Nat) (before : List Xml) (k : Xml) (ks : List Xml) :
    unKids (fuel + 1) parent i d before (k :: ks) =
      unNode fuel { parent := parent, before := before, after := ks, indent := i, pDepth := d } k
        ++ unKids fuel parent i d (k :: before) ks := rfl

@[simp] theorem unNotes_nil (fuel i : Nat) : unNotes (fuel + 1) i [] = "" := rfl

theorem replaceAllAux_of_not_mem {value : List Char} {v : Char} (repl : List Char) (hv : v ∈ value) :
    ∀ {l : List Char}, v ∉ l → replaceAllAux value repl 0 l = l
  | [], _ => rfl
  | c :: cs, h => by
    have hp : ¬ (value ≠ [] ∧ value.isPrefixOf (c :: cs) = true) :=
      fun hp => h ((List.isPrefixOf_iff_prefix.mp hp.2).subset hv)
    rw [replaceAllAux, if_neg hp, replaceAllAux_of_not_mem repl hv (fun m => h (List.mem_cons_of_mem _ m))]

theorem replaceAll_of_not_mem {s value : String} {v : Char} (repl : String) (hv : v ∈ value.toList) (h : v ∉ s.toList) :
    replaceAll s value repl = s := by
  rw [replaceAll, replaceAllAux_of_not_mem _ hv h, String.ofList_toList]

theorem replaceAllAux_single (v : Char) (repl : List Char) :
    ∀ l, replaceAllAux [v] repl 0 l = l.flatMap (fun c => if c = v then repl else [c])
  | [] => rfl
  | c :: cs => by
    by_cases h : c = v
    · subst h
      simp [replaceAllAux, List.isPrefixOf, replaceAllAux_single c repl cs]
    · have : ¬ ([v].isPrefixOf (c :: cs) = true) := by
        simp [List.isPrefixOf]
        exact fun e => h e.symm
      simp [replaceAllAux, this, h, replaceAllAux_single v repl cs]

theorem ltrim_of_head {s : String} {f : Char} {r : List Char} (hs : s.toList = f :: r) (hws : isXmlWs f = false) :
    ltrim s = s := by
  rw [ltrim, hs, List.dropWhile_cons_of_neg (by simp [hws]), ← hs, String.ofList_toList]

theorem escapeInlines_of_not_mem {s : String} (h : ∀ c ∈ ['\r', '\n', '\\', '*', '/', '_', '{', '}'], c ∉ s.toList) :
    escapeInlines s = s := by
  have hmap : (s.toList.map fun c => if c == '\r' || c == '\n' then ' ' else c) = s.toList := by
    refine (List.map_congr_left fun c hc => ?_).trans (List.map_id _)
    have h1 : c ≠ '\r' := fun e => h '\r' (by simp) (e ▸ hc)
    have h2 : c ≠ '\n' := fun e => h '\n' (by simp) (e ▸ hc)
    simp [h1, h2]
  simp only [escapeInlines, hmap, String.ofList_toList]
  rw [replaceAll_of_not_mem (v := '\\') _ (by decide) (h _ (by decide)),
    replaceAll_of_not_mem (v := '*') _ (by decide) (h _ (by decide)),
    replaceAll_of_not_mem (v := '/') _ (by decide) (h _ (by decide)),
    replaceAll_of_not_mem (v := '_') _ (by decide) (h _ (by decide)),
    replaceAll_of_not_mem (v := '{') _ (by decide) (h _ (by decide)),
    replaceAll_of_not_mem (v := '}') _ (by decide) (h _ (by decide))]

theorem escapeStartEnd_of_not_marker (ctx : UCtx) {s : String}
    (hh : ∀ c ∈ s.toList.head?, c ≠ '*' ∧ c ≠ '/' ∧ c ≠ '_') (hl : ∀ c ∈ s.toList.getLast?, c ≠ '*' ∧ c ≠ '/' ∧ c ≠ '_') :
    escapeStartEnd ctx s = escapeInlines s := by
  have key : ∀ o : Option Char, (∀ c ∈ o, c ≠ '*' ∧ c ≠ '/' ∧ c ≠ '_') →
      (if o = some '*' then "b" else if o = some '/' then "i" else if o = some '_' then "u" else "") = "" := by
    intro o ho
    cases o with
    | none => rfl
    | some c =>
      obtain ⟨h1, h2, h3⟩ := ho c rfl
      simp [h1, h2, h3]
  simp [escapeStartEnd, key _ hh, key _ hl]

theorem escape_lists_uppercase :
    (xslEscapeEquals ++ xslEscapeStarts).all (fun k => match k.toList.head? with | some c => decide ('A' ≤ c ∧ c ≤ 'Z') | none => false) = true := by
  decide +kernel

theorem escapePrefixes_lower {s : String} {f : Char} {r : List Char} (hs : s.toList = f :: r) (hf : ¬ ('A' ≤ f ∧ f ≤ 'Z')) :
    escapePrefixes s = s := by
  rw [escapePrefixes, if_neg]
  intro h
  -- the keyword that makes `escape-prefixes` act is a prefix of `s`, so it starts with `f`; but all of them start in upper case
  obtain ⟨k, hk, t, ht⟩ : ∃ k ∈ xslEscapeEquals ++ xslEscapeStarts, k.toList <+: s.toList := by
    simp only [Bool.or_eq_true, List.contains_iff_mem, List.any_eq_true, List.isPrefixOf_iff_prefix] at h
    rcases h with h | ⟨k, hk, hp⟩
    · exact ⟨s, List.mem_append_left _ h, List.prefix_refl _⟩
    · exact ⟨k, List.mem_append_right _ hk, hp⟩
  have hu := List.all_eq_true.mp escape_lists_uppercase k hk
  rw [hs] at ht
  cases hkl : k.toList with
  | nil => simp [hkl] at hu
  | cons a as =>
    rw [hkl] at ht hu
    cases ht
    exact hf (by simpa using hu)

end Bluebell
