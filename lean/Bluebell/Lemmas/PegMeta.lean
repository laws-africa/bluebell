import Bluebell.Peg.Eval
import Bluebell.Lemmas.Scan
/-!
Every recursive clause of the interpreter evaluates a sub-expression, goes on with `k` on success and with `f` on failure,
and passes `oof` through: `Res.bind`, and the step equations (`eval_opt`, `evalSeq_cons`, …) say so once.  `Cfg`/`run` are the
four mutually recursive functions as one function on configurations, so that a fact about all four is one statement: an
answer other than "out of fuel" is independent of the fuel (`run_mono`); a match starts where it was asked to and ends at or
after its start, inside the input if it has moved (`Runs.span`).
-/
namespace Bluebell

def Res.done : Res → Prop
  | .oof => False
  | _ => True

@[simp] theorem Res.done_ok (t : Tree) : (Res.ok t).done := trivial
@[simp] theorem Res.done_fail : Res.fail.done := trivial
@[simp] theorem Res.not_done_oof : ¬ Res.oof.done := fun h => h

def Res.bind (a : Res) (k : Tree → Res) (f : Res) : Res :=
  match a with
  | .ok t => k t
  | .fail => f
  | .oof => .oof

namespace Res
variable {a a' f f' : Res} {k k' : Tree → Res} {t : Tree}

theorem bind_eq_ok : a.bind k f = .ok t ↔ (∃ u, a = .ok u ∧ k u = .ok t) ∨ (a = .fail ∧ f = .ok t) := by
  cases a <;> simp [bind]

/-- `bind` is monotone for "more defined than": what makes fuel monotonicity a one-line case. -/
theorem bind_mono (ha : a.done → a' = a) (hk : ∀ u, (k u).done → k' u = k u) (hf : f.done → f' = f)
    (hd : (a.bind k f).done) : a'.bind k' f' = a.bind k f := by
  cases a with
  | oof => exact absurd hd not_done_oof
  | fail => rw [ha trivial]; exact hf hd
  | ok u => rw [ha trivial]; exact hk u hd
end Res

section
variable (g : Grammar) (inp : Array Char) (n : Nat)

theorem eval_opt (e : PExp) (p : Nat) :
    eval g inp (n+1) (.opt e) p = (eval g inp n e p).bind .ok (.ok (.leaf p p)) := by
  rw [eval]; cases eval g inp n e p <;> rfl
theorem eval_notP (e : PExp) (p : Nat) :
    eval g inp (n+1) (.notP e) p = (eval g inp n e p).bind (fun _ => .fail) (.ok (.leaf p p)) := by
  rw [eval]; cases eval g inp n e p <;> rfl
theorem eval_andP (e : PExp) (p : Nat) :
    eval g inp (n+1) (.andP e) p = (eval g inp n e p).bind (fun _ => .ok (.leaf p p)) .fail := by
  rw [eval]; cases eval g inp n e p <;> rfl
theorem eval_typed (ty : String) (e : PExp) (p : Nat) :
    eval g inp (n+1) (.typed ty e) p = (eval g inp n e p).bind (fun t => .ok (t.addType ty)) .fail := by
  rw [eval]; cases eval g inp n e p <;> rfl

theorem evalSeq_cons (names : List String) (e : PExp) (es : PItems) (s p i : Nat)
    (ls : List (String × Nat)) (acc : List Tree) :
    evalSeq g inp (n+1) (.cons names e es) s p i ls acc = (eval g inp n e p).bind
      (fun t => evalSeq g inp n es s t.stop (i+1) (addLabels ls names i) (t :: acc)) .fail := by
  rw [evalSeq]; cases eval g inp n e p <;> rfl
theorem evalChoice_cons (e : PExp) (es : PExps) (p : Nat) :
    evalChoice g inp (n+1) (.cons e es) p = (eval g inp n e p).bind .ok (evalChoice g inp n es p) := by
  rw [evalChoice]; cases eval g inp n e p <;> rfl
theorem evalRep_succ (e : PExp) (s p : Nat) (acc : List Tree) (min : Nat) :
    evalRep g inp (n+1) e s p acc min = (eval g inp n e p).bind
      (fun t => if t.stop ≤ p then .oof else evalRep g inp n e s t.stop (t :: acc) min)
      (if min ≤ acc.length then .ok (.node s p [] [] acc.reverse) else .fail) := by
  rw [evalRep]; cases eval g inp n e p <;> rfl
end

inductive Cfg where
  | exp (e : PExp) (p : Nat)
  | seq (es : PItems) (s p i : Nat) (ls : List (String × Nat)) (acc : List Tree)
  | alt (es : PExps) (p : Nat)
  | rep (e : PExp) (s p : Nat) (acc : List Tree) (min : Nat)

/-- where the node being built starts -/
def Cfg.start : Cfg → Nat
  | .exp _ p | .alt _ p => p
  | .seq _ s .. | .rep _ s .. => s
/-- where evaluation stands -/
def Cfg.pos : Cfg → Nat
  | .exp _ p | .alt _ p | .seq _ _ p .. | .rep _ _ p .. => p

@[reducible] def run (g : Grammar) (inp : Array Char) (n : Nat) : Cfg → Res
  | .exp e p => eval g inp n e p
  | .seq es s p i ls acc => evalSeq g inp n es s p i ls acc
  | .alt es p => evalChoice g inp n es p
  | .rep e s p acc m => evalRep g inp n e s p acc m

variable {g : Grammar} {inp : Array Char}

theorem run_zero (c : Cfg) : run g inp 0 c = .oof := by
  cases c <;> simp only [run, eval, evalSeq, evalChoice, evalRep]

theorem run_mono_succ : ∀ n c, (run g inp n c).done → run g inp (n+1) c = run g inp n c := by
  intro n
  induction n with
  | zero => intro c hd; rw [run_zero] at hd; exact absurd hd Res.not_done_oof
  | succ n ih =>
    have E := fun e p => ih (.exp e p)
    intro c
    cases c with
    | exp e p =>
      cases e with
      | lit | cls | rx1 => exact fun _ => by simp only [run, eval]
      | ref nm =>
        simp only [run, eval]
        cases g.lookup nm with
        | none => exact fun _ => rfl
        | some e' => exact E e' p
      | seq es => simp only [run, eval]; exact ih (.seq es p p 0 [] [])
      | choice es => simp only [run, eval]; exact ih (.alt es p)
      | star e => simp only [run, eval]; exact ih (.rep e p p [] 0)
      | plus e => simp only [run, eval]; exact ih (.rep e p p [] 1)
      | opt e | notP e | andP e | typed _ e =>
        simp only [run, eval_opt, eval_notP, eval_andP, eval_typed]
        exact Res.bind_mono (E e p) (fun _ _ => rfl) (fun _ => rfl)
    | seq es s p i ls acc =>
      cases es with
      | nil => exact fun _ => by simp only [run, evalSeq]
      | cons names e es =>
        simp only [run, evalSeq_cons]
        exact Res.bind_mono (E e p) (fun t => ih (.seq es s t.stop _ _ _)) (fun _ => rfl)
    | alt es p =>
      cases es with
      | nil => exact fun _ => by simp only [run, evalChoice]
      | cons e es =>
        simp only [run, evalChoice_cons]
        exact Res.bind_mono (E e p) (fun _ _ => rfl) (ih (.alt es p))
    | rep e s p acc m =>
      simp only [run, evalRep_succ g inp _ e s p]
      refine Res.bind_mono (E e p) (fun t hd => ?_) (fun _ => rfl)
      by_cases hc : t.stop ≤ p
      · simp only [hc, if_true]
      · simp only [hc, if_false] at hd ⊢; exact ih (.rep e s t.stop _ m) hd

theorem run_mono {n m : Nat} (h : n ≤ m) (c : Cfg) (hd : (run g inp n c).done) :
    run g inp m c = run g inp n c := by
  induction h with
  | refl => rfl
  | step _ ih => rw [← ih]; exact run_mono_succ _ c (by rw [ih]; exact hd)

theorem eval_mono (g : Grammar) (inp : Array Char) (e : PExp) (p : Nat) {n m : Nat} (h : n ≤ m)
    (hd : (eval g inp n e p).done) : eval g inp m e p = eval g inp n e p :=
  run_mono h (.exp e p) hd

/-- One rule for each way in which a clause of the interpreter answers `.ok t`.  What had to fail on the way is left out, so
`Runs` is for what every success has in common: such a fact (`Runs.span`, `Runs.nullable`) is an induction with one line for
each rule. -/
inductive Runs (g : Grammar) (inp : Array Char) : Cfg → Tree → Prop
  | lit {s p} : litMatch inp p s = true → Runs g inp (.exp (.lit s) p) (.leaf p (p + s.length))
  | cls {neg cs p c} : inp[p]? = some c → clsMatch neg cs c = true →
      Runs g inp (.exp (.cls neg cs) p) (.leaf p (p + 1))
  | rx1 {neg cs p q} : scanCls inp neg cs (inp.size - p) p = q → p < q →
      Runs g inp (.exp (.rx1 neg cs) p) (.node p q [] [] [.leaf p q])
  | ref {A e p t} : g.lookup A = some e → Runs g inp (.exp e p) t → Runs g inp (.exp (.ref A) p) t
  | seq {es p t} : Runs g inp (.seq es p p 0 [] []) t → Runs g inp (.exp (.seq es) p) t
  | choice {es p t} : Runs g inp (.alt es p) t → Runs g inp (.exp (.choice es) p) t
  | star {e p t} : Runs g inp (.rep e p p [] 0) t → Runs g inp (.exp (.star e) p) t
  | plus {e p t} : Runs g inp (.rep e p p [] 1) t → Runs g inp (.exp (.plus e) p) t
  | opt {e p t} : Runs g inp (.exp e p) t → Runs g inp (.exp (.opt e) p) t
  | optNone {e p} : Runs g inp (.exp (.opt e) p) (.leaf p p)
  | notP {e p} : Runs g inp (.exp (.notP e) p) (.leaf p p)
  | andP {e p u} : Runs g inp (.exp e p) u → Runs g inp (.exp (.andP e) p) (.leaf p p)
  | typed {ty e p u} : Runs g inp (.exp e p) u → Runs g inp (.exp (.typed ty e) p) (u.addType ty)
  | nil {s p i ls acc} : Runs g inp (.seq .nil s p i ls acc) (.node s p [] ls acc.reverse)
  | cons {names e es s p i ls acc u t} : Runs g inp (.exp e p) u →
      Runs g inp (.seq es s u.stop (i+1) (addLabels ls names i) (u :: acc)) t →
      Runs g inp (.seq (.cons names e es) s p i ls acc) t
  | head {e es p t} : Runs g inp (.exp e p) t → Runs g inp (.alt (.cons e es) p) t
  | tail {e es p t} : Runs g inp (.alt es p) t → Runs g inp (.alt (.cons e es) p) t
  | stop {e s p acc m} : m ≤ acc.length → Runs g inp (.rep e s p acc m) (.node s p [] [] acc.reverse)
  | step {e s p acc m u t} : Runs g inp (.exp e p) u → p < u.stop →
      Runs g inp (.rep e s u.stop (u :: acc) m) t → Runs g inp (.rep e s p acc m) t

theorem runs_of_run : ∀ n c t, run g inp n c = .ok t → Runs g inp c t := by
  intro n
  induction n with
  | zero => intro c t h; rw [run_zero] at h; cases h
  | succ n ih =>
    intro c t h
    cases c with
    | exp e p =>
      cases e with
      | lit s => simp only [run, eval] at h; split at h <;> cases h; exact .lit ‹_›
      | cls neg cs =>
        simp only [run, eval] at h
        split at h
        · split at h <;> cases h; exact .cls ‹_› ‹_›
        · cases h
      | rx1 neg cs => simp only [run, eval] at h; split at h <;> cases h; exact .rx1 rfl ‹_›
      | ref nm =>
        simp only [run, eval] at h
        split at h
        · exact .ref ‹_› (ih (.exp ..) _ h)
        · cases h
      | seq es => simp only [run, eval] at h; exact .seq (ih (.seq ..) _ h)
      | choice es => simp only [run, eval] at h; exact .choice (ih (.alt ..) _ h)
      | star e => simp only [run, eval] at h; exact .star (ih (.rep ..) _ h)
      | plus e => simp only [run, eval] at h; exact .plus (ih (.rep ..) _ h)
      | opt e =>
        simp only [run, eval_opt, Res.bind_eq_ok] at h
        obtain ⟨u, he, h⟩ | ⟨-, h⟩ := h <;> cases h
        · exact .opt (ih (.exp e p) _ he)
        · exact .optNone
      | notP e =>
        simp only [run, eval_notP, Res.bind_eq_ok] at h
        obtain ⟨u, -, h⟩ | ⟨-, h⟩ := h <;> cases h
        exact .notP
      | andP e =>
        simp only [run, eval_andP, Res.bind_eq_ok] at h
        obtain ⟨u, he, h⟩ | ⟨-, h⟩ := h <;> cases h
        exact .andP (ih (.exp e p) _ he)
      | typed ty e =>
        simp only [run, eval_typed, Res.bind_eq_ok] at h
        obtain ⟨u, he, h⟩ | ⟨-, h⟩ := h <;> cases h
        exact .typed (ih (.exp e p) _ he)
    | seq es s p i ls acc =>
      cases es with
      | nil => simp only [run, evalSeq] at h; cases h; exact .nil
      | cons names e es =>
        simp only [run, evalSeq_cons, Res.bind_eq_ok] at h
        obtain ⟨u, he, h⟩ | ⟨-, h⟩ := h
        · exact .cons (ih (.exp e p) _ he) (ih (.seq ..) _ h)
        · cases h
    | alt es p =>
      cases es with
      | nil => simp [run, evalChoice] at h
      | cons e es =>
        simp only [run, evalChoice_cons, Res.bind_eq_ok] at h
        obtain ⟨u, he, h⟩ | ⟨-, h⟩ := h
        · cases h; exact .head (ih (.exp e p) _ he)
        · exact .tail (ih (.alt es p) _ h)
    | rep e s p acc m =>
      simp only [run, evalRep_succ, Res.bind_eq_ok] at h
      obtain ⟨u, he, h⟩ | ⟨-, h⟩ := h
      · split at h
        · cases h
        · exact .step (ih (.exp e p) _ he) (Nat.not_le.1 ‹_›) (ih (.rep ..) _ h)
      · split at h <;> cases h
        exact .stop ‹_›

theorem lt_size_of_get {q : Nat} {x : Char} (h : inp[q]? = some x) : q < inp.size :=
  (Array.getElem?_eq_some_iff.1 h).1

theorem litMatch_bound (inp : Array Char) : ∀ (s : List Char) (pos : Nat),
    litMatch inp pos s = true → pos + s.length ≤ max pos inp.size := by
  intro s
  induction s with
  | nil => exact fun pos _ => Nat.le_max_left ..
  | cons c cs ih =>
    intro pos hm
    simp only [litMatch, Bool.and_eq_true, beq_iff_eq] at hm
    have := ih (pos + 1) hm.2
    have := lt_size_of_get hm.1
    simp only [List.length_cons]; omega

/-- `max`: an expression that consumes nothing succeeds beyond the end of the input as well. -/
def Span (inp : Array Char) (c : Cfg) (t : Tree) : Prop :=
  t.start = c.start ∧ c.pos ≤ t.stop ∧ t.stop ≤ max c.pos inp.size

theorem Runs.span {c : Cfg} {t : Tree} (h : Runs g inp c t) : Span inp c t := by
  induction h with
  | lit hm => exact ⟨rfl, Nat.le_add_right .., litMatch_bound inp _ _ hm⟩
  | cls hc => exact ⟨rfl, Nat.le_succ _, Nat.le_trans (lt_size_of_get hc) (Nat.le_max_right ..)⟩
  | @rx1 neg cs p q hq =>
    have := (scanCls_spec inp neg cs (inp.size - p) p).2.1
    exact ⟨rfl, hq ▸ scanCls_ge .., by simp only [Tree.stop, Cfg.pos] at *; omega⟩
  | ref _ _ ih | seq _ ih | choice _ ih | star _ ih | plus _ ih | opt _ ih | head _ ih | tail _ ih => exact ih
  | optNone | notP | andP | nil | stop => exact ⟨rfl, Nat.le_refl _, Nat.le_max_left ..⟩
  | typed _ ih => simpa [Span, Cfg.start, Cfg.pos] using ih
  | cons _ _ h1 h2 | step _ _ _ h1 h2 =>
    refine ⟨h2.1, Nat.le_trans h1.2.1 h2.2.1, ?_⟩
    -- the second part starts where the first stopped: inside the text, or where the first started
    have := h1.2.2
    have := h2.2.2
    simp only [Cfg.pos] at *
    omega

theorem Runs.stop_le {e : PExp} {p : Nat} {t : Tree} (h : Runs g inp (.exp e p) t) (hlt : ¬ t.stop ≤ p) :
    t.stop ≤ inp.size := by
  have := h.span.2.2
  simp only [Cfg.pos] at this
  omega

theorem run_span (n : Nat) (c : Cfg) (t : Tree) (h : run g inp n c = .ok t) : Span inp c t :=
  (runs_of_run n c t h).span

theorem eval_span (g : Grammar) (inp : Array Char) (n : Nat) (e : PExp) (p : Nat) (t : Tree)
    (hp : p ≤ inp.size) (h : eval g inp n e p = .ok t) :
    t.start = p ∧ p ≤ t.stop ∧ t.stop ≤ inp.size :=
  have ⟨h1, h2, h3⟩ := run_span n (.exp e p) t h
  ⟨h1, h2, Nat.max_eq_right hp ▸ h3⟩

end Bluebell
