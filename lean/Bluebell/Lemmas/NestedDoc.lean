import Bluebell.Lemmas.FlatDoc
import Bluebell.Lemmas.PegReads
/-!
`Blk` is the block structure of pre-parsed text: a line that rule `line` reads (its characters `l` are a label that `AtBlk`
does not look at; `TokDoc` fills it in), or an INDENT marker line, a non-empty list of blocks and a DEDENT marker line.  A
text that reads as a list of such blocks (`AtBlks`) is accepted in full by the six roots (`root_reads`); that `pre_parse`
only ever produces well-nested marker structure is C11's theorem.  A block starts with a `starterOK` character or with
INDENT, and the list ends at the end of the text: at those three places no rule that opens another part of the document
(`docRules`) can start, so every optional part is absent and every guard of a loop item succeeds.
-/
namespace Bluebell

inductive Blk where
  | line (l : List Char)
  | nest (bs : List Blk)

def IND : Char := Char.ofNat 14
def DED : Char := Char.ofNat 15

/-- `plainStart` without the requirement that the character itself be plain: a backslash qualifies. -/
def starterOK (c : Char) : Bool :=
  blockChoosesLine c && c != Char.ofNat 14 && c != Char.ofNat 15 &&
  (["conclusions_marker", "attachment_marker", "body_marker", "preface", "preamble", "conclusions", "attachments",
     "introduction", "background", "arguments_marker", "remedies", "motivation", "decision", "remedies_marker",
     "motivation_marker", "decision_marker"].all
    fun r => !mayStart aknExec 100 (.ref r) (some c) && (aknExec.lookup r).isSome)

/-- `plainStart` and `starterOK` each spell this list out; `starterOK_parts` holds because the copies agree. -/
def docRules : List String :=
  ["conclusions_marker", "attachment_marker", "body_marker", "preface", "preamble", "conclusions", "attachments",
   "introduction", "background", "arguments_marker", "remedies", "motivation", "decision", "remedies_marker",
   "motivation_marker", "decision_marker"]

theorem starterOK_parts {c : Char} (h : starterOK c = true) :
    blockChoosesLine c = true ∧ c ≠ IND ∧ c ≠ DED ∧ ∀ r ∈ docRules, cannotStart (some c) r = true := by
  obtain ⟨h123, h4⟩ := (Bool.and_eq_true _ _).mp h
  obtain ⟨h12, h3⟩ := (Bool.and_eq_true _ _).mp h123
  obtain ⟨h1, h2⟩ := (Bool.and_eq_true _ _).mp h12
  exact ⟨h1, bne_iff_ne.mp h2, bne_iff_ne.mp h3, fun r hr => ((Bool.and_eq_true _ _).mp (List.all_eq_true.mp h4 r hr)).1⟩

theorem starterOK_of_plainStart {c : Char} (h : plainStart c = true) : starterOK c = true := by
  simp only [plainStart, starterOK, Bool.and_eq_true] at h ⊢
  exact ⟨⟨⟨h.1.1.1.1, h.1.1.2⟩, h.1.2⟩, h.2⟩

-- After INDENT comes exactly one newline, after a line or DEDENT any positive number: `pre_parse` puts an INDENT directly
-- before content (C11), and blank lines are only ever left behind a line or a DEDENT.
mutual
def AtBlk (inp : Array Char) : Nat → Blk → Nat → Prop
  | p, .line _, q => ∃ c, inp[p]? = some c ∧ starterOK c = true ∧ p < q ∧
      ∃ t, Lim aknExec inp (.ref "line") p (.ok t) ∧ t.stop = q
  | p, .nest bs, q => inp[p]? = some IND ∧ inp[p + 1]? = some '\n' ∧ inp[p + 2]? ≠ some '\n' ∧ bs ≠ [] ∧
      ∃ m, AtBlks inp (p + 2) bs m ∧ inp[m]? = some DED ∧ ∃ k, NlRun inp (m + 1) (k + 1) ∧ q = m + 1 + (k + 1)
def AtBlks (inp : Array Char) : Nat → List Blk → Nat → Prop
  | p, [], q => p = q
  | p, b :: bs, q => ∃ m, AtBlk inp p b m ∧ AtBlks inp m bs q
end

variable {inp : Array Char}

def container (X : String) : PExp :=
  .seq (.cons ["indent"] (.ref "indent") (.cons ["content"] (.plus (.ref X)) (.cons ["dedent"] (.ref "dedent") .nil)))

def guardItems : List String → PItems
  | [] => .cons ["hier_block_indent"] (.ref "hier_block_indent") .nil
  | g :: gs => .cons [] (.notP (.ref g)) (guardItems gs)

def bodyGuards : List String := ["conclusions_marker", "attachment_marker"]
def argGuards : List String := ["remedies_marker", "motivation_marker", "decision_marker", "conclusions_marker", "attachment_marker"]

def bodyRule (ty marker : String) (gs : List String) : PExp :=
  .typed ty (.seq (.cons [] (.opt (.ref marker)) (.cons ["content"] (.star (.seq (guardItems gs))) .nil)))

def structureRule (ty bodyLabel body : String) : PExp :=
  .typed ty (.seq (.cons ["preface"] (.opt (.ref "preface")) (.cons ["preamble"] (.opt (.ref "preamble"))
    (.cons [bodyLabel] (.ref body) (.cons ["conclusions"] (.opt (.ref "conclusions"))
    (.cons ["attachments"] (.opt (.ref "attachments")) .nil))))))

/-- As `LineRules`, for the rules this file reads. -/
structure DocumentRules : Prop where
  be : aknExec.lookup "block_element" = some (.choice (.cons (.ref "nested_block_element") (.cons (.ref "block_elements") .nil)))
  nbe : aknExec.lookup "nested_block_element" = some (.typed "NestedBlockElement" (container "block_element"))
  hbe : aknExec.lookup "hier_block_element" = some (.choice (.cons (.ref "hier_element") (.cons (.ref "block_element") .nil)))
  bes : aknExec.lookup "block_elements" = some (.choice (choiceAlts aknExec "block_elements"))
  hbi : aknExec.lookup "hier_block_indent" = some (.choice (.cons (container "hier_block_element")
    (.cons (.ref "hier_block_element") .nil)))
  indent : aknExec.lookup "indent" = some (.seq (.cons [] (.lit [IND]) (.cons ["eol"] (.ref "eol") .nil)))
  mainBody : aknExec.lookup "mainBody" = some (bodyRule "MainBody" "body_marker" bodyGuards)
  body : aknExec.lookup "body" = some (bodyRule "Body" "body_marker" bodyGuards)
  arguments : aknExec.lookup "arguments" = some (bodyRule "Arguments" "arguments_marker" argGuards)
  open_structure : aknExec.lookup "open_structure" = some (structureRule "OpenStructure" "mainBody" "mainBody")
  hierarchical_structure : aknExec.lookup "hierarchical_structure" = some (structureRule "HierarchicalStructure" "body" "body")
  doc : aknExec.lookup "doc" = some (.typed "Doc" (.ref "open_structure"))
  statement : aknExec.lookup "statement" = some (.typed "Statement" (.ref "open_structure"))
  debateReport : aknExec.lookup "debateReport" = some (.typed "DebateReport" (.ref "open_structure"))
  act : aknExec.lookup "act" = some (.typed "Act" (.ref "hierarchical_structure"))
  bill : aknExec.lookup "bill" = some (.typed "Bill" (.ref "hierarchical_structure"))
  judgmentBody : aknExec.lookup "judgmentBody" = some (.typed "JudgmentBody" (.seq (.cons ["introduction"] (.opt (.ref "introduction"))
    (.cons ["background"] (.opt (.ref "background")) (.cons ["arguments"] (.opt (.ref "arguments")) (.cons ["remedies"] (.opt (.ref "remedies"))
    (.cons ["motivation"] (.opt (.ref "motivation")) (.cons ["decision"] (.opt (.ref "decision")) .nil))))))))
  judgment : aknExec.lookup "judgment" = some (.typed "Judgment" (.seq (.cons ["judgmentBody"] (.ref "judgmentBody")
    (.cons ["conclusions"] (.opt (.ref "conclusions")) (.cons ["attachments"] (.opt (.ref "attachments")) .nil)))))

instance : Decidable DocumentRules :=
  decidable_of_iff (_ ∧ _ ∧ _ ∧ _ ∧ _ ∧ _ ∧ _ ∧ _ ∧ _ ∧ _ ∧ _ ∧ _ ∧ _ ∧ _ ∧ _ ∧ _ ∧ _ ∧ _)
    ⟨fun ⟨a, b, c, d, e, f, g, h, i, j, k, l, m, n, o, p, q, r⟩ => ⟨a, b, c, d, e, f, g, h, i, j, k, l, m, n, o, p, q, r⟩,
     fun ⟨a, b, c, d, e, f, g, h, i, j, k, l, m, n, o, p, q, r⟩ => ⟨a, b, c, d, e, f, g, h, i, j, k, l, m, n, o, p, q, r⟩⟩

theorem lkd : DocumentRules := by decide +kernel

theorem edge_facts :
    (docRules.all fun r => cannotStart (some IND) r && cannotStart none r) = true ∧
    cannotStart none "hier_block_indent" = true ∧
    cannotStart (some DED) "hier_element" = true ∧ cannotStart (some DED) "nested_block_element" = true := by
  decide +kernel

theorem docRule_edges {r : String} (hr : r ∈ docRules) : cannotStart (some IND) r = true ∧ cannotStart none r = true :=
  (Bool.and_eq_true _ _).mp (List.all_eq_true.mp edge_facts.1 r hr)

theorem docRule_fails_eof {r : String} (hr : r ∈ docRules) : Lim aknExec inp (.ref r) inp.size .fail :=
  fails_at_eof (docRule_edges hr).2

theorem docRule_fails_blk {r : String} (hr : r ∈ docRules) : ∀ {b : Blk} {p q : Nat}, AtBlk inp p b q →
    Lim aknExec inp (.ref r) p .fail
  | .line _, _, _, ⟨_, hc0, hs, _⟩ => fails_at hc0 ((starterOK_parts hs).2.2.2 r hr)
  | .nest _, _, _, h => fails_at h.1 (docRule_edges hr).1

theorem docRule_fails {r : String} (hr : r ∈ docRules) : ∀ {bs : List Blk} {p : Nat}, AtBlks inp p bs inp.size →
    Lim aknExec inp (.ref r) p .fail
  | [], _, rfl => docRule_fails_eof hr
  | _ :: _, _, ⟨_, hb, _⟩ => docRule_fails_blk hr hb

theorem marker_line_run {rule : String} {ch : Char}
    (hl : aknExec.lookup rule = some (.seq (.cons [] (.lit [ch]) (.cons ["eol"] (.ref "eol") .nil))))
    {p : Nat} (h0 : inp[p]? = some ch) (k : Nat) (h1 : NlRun inp (p + 1) (k + 1)) :
    Reads aknExec inp (.ref rule) p (p + 1 + (k + 1)) :=
  reads_ref hl (reads_seq (seqTo_cons (reads_lit (s := [ch]) (by simp [litMatch, h0]))
    (seqTo_cons (eol_run (p + 1) k h1) seqTo_nil)))

theorem line_alone_at_ded :
    skipAlts aknExec 100 (some DED) (choiceAlts aknExec "block_elements") = .cons (.ref "line") .nil := by
  decide +kernel

/-- `line` refuses a DEDENT line by `!dedent`, for which `dedent` has to read it (hence `h1`); no other alternative can start
with DEDENT. -/
theorem block_element_fails_at_ded (m : Nat) (h0 : inp[m]? = some DED) (h1 : inp[m + 1]? = some '\n') :
    Lim aknExec inp (.ref "block_element") m .fail := by
  obtain ⟨k, hk⟩ := nlRun_of_newline (m + 1) h1
  obtain ⟨_, hded, _⟩ := marker_line_run lk.dedent h0 k hk
  have hline : Lim aknExec inp (.ref "line") m .fail :=
    lim_ref lk.line (lim_typed_fail (lim_seq (limS_cons_fail (lim_not_ok hded))))
  have hbes : Lim aknExec inp (.ref "block_elements") m .fail :=
    lim_ref lkd.bes (lim_choice (limC_skipAlts akn_wf 100 m _
      (by rw [h0, line_alone_at_ded]; exact limC_cons_fail hline limC_nil)))
  exact lim_ref lkd.be (lim_choice (limC_cons_fail (fails_at h0 edge_facts.2.2.2) (limC_cons_fail hbes limC_nil)))

theorem hier_block_element_fails_at_ded (m : Nat) (h0 : inp[m]? = some DED) (h1 : inp[m + 1]? = some '\n') :
    Lim aknExec inp (.ref "hier_block_element") m .fail :=
  lim_ref lkd.hbe (lim_choice (limC_cons_fail (fails_at h0 edge_facts.2.2.1)
    (limC_cons_fail (block_element_fails_at_ded m h0 h1) limC_nil)))

theorem atBlk_progress (inp : Array Char) : ∀ (b : Blk) (p q : Nat), AtBlk inp p b q → p < q
  | .line _, _, _, ⟨_, _, _, hlt, _⟩ => hlt
  | .nest bs, p, q, ⟨_, _, _, _, m, hbs, _, k, _, hq⟩ => by
    have : p + 2 ≤ m := atBlks_mono inp bs (p + 2) m hbs
    omega
where
  atBlks_mono (inp : Array Char) : ∀ (bs : List Blk) (p q : Nat), AtBlks inp p bs q → p ≤ q
  | [], p, _, rfl => Nat.le_refl p
  | b :: bs, p, q, ⟨m, hb, hr⟩ =>
    Nat.le_trans (Nat.le_of_lt (atBlk_progress inp b p m hb)) (atBlks_mono inp bs m q hr)

theorem atBlk_head_ne_newline : ∀ {b : Blk} {p q : Nat}, AtBlk inp p b q → inp[p]? ≠ some '\n'
  | .line _, _, _, ⟨_, _, _, _, _, ht, _⟩ => fun e => nomatch lim_unique (line_fails_at_newline e) ht
  | .nest _, _, _, h => by rw [h.1]; decide

theorem atBlks_head_ne_newline : ∀ {bs : List Blk} {p q : Nat}, AtBlks inp p bs q → inp[q]? ≠ some '\n' → inp[p]? ≠ some '\n'
  | [], _, _, rfl, h => h
  | _ :: _, _, _, ⟨_, hb, _⟩, _ => atBlk_head_ne_newline hb

/-! ## blocks through `block_element`, `hier_block_element`, `hier_block_indent` -/

theorem reps_of_atBlks {e : PExp} (he : ∀ b p q, AtBlk inp p b q → Reads aknExec inp e p q) :
    ∀ (bs : List Blk) (p q : Nat), AtBlks inp p bs q → Reps aknExec inp e p q bs.length
  | [], p, _, rfl => .nil p
  | b :: bs, p, q, ⟨m, hb, hr⟩ => .cons (he b p m hb) (atBlk_progress inp b p m hb) (reps_of_atBlks he bs m q hr)

theorem container_reads (X : String) (bs : List Blk)
    (hX : ∀ p m, AtBlks inp p bs m → Reps aknExec inp (.ref X) p m bs.length)
    (hXf : ∀ m, inp[m]? = some DED → inp[m + 1]? = some '\n' → Lim aknExec inp (.ref X) m .fail)
    {p q : Nat} (h : AtBlk inp p (.nest bs) q) : Reads aknExec inp (container X) p q := by
  obtain ⟨h0, h1, h2, hne, m, hbs, hm0, k, hrun, rfl⟩ := h
  have hlen : 1 ≤ bs.length := List.length_pos_iff.2 hne
  exact reads_seq (seqTo_cons (marker_line_run lkd.indent h0 0 ⟨h1, h2⟩)
    (seqTo_cons (reads_plus (hX _ _ hbs) (hXf m hm0 hrun.1) hlen)
      (seqTo_cons (marker_line_run lk.dedent hm0 k hrun) seqTo_nil)))

theorem line_blk_reads {l : List Char} {p q : Nat} (h : AtBlk inp p (.line l) q) {r : String} (hr : r ∈ blockLevelRules) :
    Reads aknExec inp (.ref r) p q :=
  have ⟨_, hc0, hs, _, tl, hline, htl⟩ := h
  ⟨tl, block_rules_follow_line hc0 (starterOK_parts hs).1 hline r hr, htl⟩

mutual
theorem block_element_reads (inp : Array Char) : ∀ (b : Blk) (p q : Nat), AtBlk inp p b q →
    Reads aknExec inp (.ref "block_element") p q
  | .line _, _, _, h => line_blk_reads h (by simp [blockLevelRules])
  | .nest bs, _, _, h =>
    reads_ref lkd.be (reads_alt1 (reads_ref lkd.nbe (reads_typed
      (container_reads "block_element" bs (fun p m h => block_element_reps inp bs p m h) block_element_fails_at_ded h))))
-- `reps_of_atBlks` for `block_element`, inside the mutual recursion
theorem block_element_reps (inp : Array Char) : ∀ (bs : List Blk) (p q : Nat), AtBlks inp p bs q →
    Reps aknExec inp (.ref "block_element") p q bs.length
  | [], p, _, rfl => .nil p
  | b :: bs, p, q, ⟨m, hb, hr⟩ =>
    .cons (block_element_reads inp b p m hb) (atBlk_progress inp b p m hb) (block_element_reps inp bs m q hr)
end

theorem block_elements_loop (inp : Array Char) : ∀ (bs : List Blk) (p m s : Nat) (acc : List Tree), AtBlks inp p bs m →
    inp[m]? = some DED → inp[m + 1]? = some '\n' → 1 ≤ acc.length + bs.length →
    ∃ out, LimR aknExec inp (.ref "block_element") s p acc 1 (.ok (.node s m [] [] out)) :=
  fun bs p m s acc h h0 h1 hlen =>
    limR_of_reps (block_element_fails_at_ded m h0 h1) (block_element_reps inp bs p m h) s acc hlen

theorem hbe_chooses_be_at_ind : ruleChooses IND "hier_block_element" "block_element" = true := by decide +kernel

theorem hier_block_element_reads : ∀ (b : Blk) (p q : Nat), AtBlk inp p b q →
    Reads aknExec inp (.ref "hier_block_element") p q
  | .line _, _, _, h => line_blk_reads h (by simp [blockLevelRules])
  | .nest bs, p, q, h =>
    have ⟨t, ht, hts⟩ := block_element_reads inp (.nest bs) p q h
    ⟨t, lim_of_ruleChooses h.1 hbe_chooses_be_at_ind ht, hts⟩

theorem hbi_reads : ∀ (b : Blk) (p q : Nat), AtBlk inp p b q → Reads aknExec inp (.ref "hier_block_indent") p q
  | .line l, p, q, h =>
    have ⟨_, hc0, hs, _⟩ := h
    reads_ref lkd.hbi (reads_alt2
      (lim_seq (limS_cons_fail (marker_fails lkd.indent hc0 (starterOK_parts hs).2.1)))
      (hier_block_element_reads (.line l) p q h))
  | .nest bs, _, _, h =>
    reads_ref lkd.hbi (reads_alt1 (container_reads "hier_block_element" bs
      (reps_of_atBlks hier_block_element_reads bs) hier_block_element_fails_at_ded h))

/-! ## `body`, `mainBody`, `arguments`; the roots -/

theorem seqTo_guards {p q : Nat} (hbi : Reads aknExec inp (.ref "hier_block_indent") p q) :
    ∀ (gs : List String), (∀ g ∈ gs, Lim aknExec inp (.ref g) p .fail) → SeqTo aknExec inp (guardItems gs) p q
  | [], _ => seqTo_cons hbi seqTo_nil
  | g :: gs, hg => seqTo_cons (reads_not (hg g List.mem_cons_self))
      (seqTo_guards hbi gs fun g' hg' => hg g' (List.mem_cons_of_mem _ hg'))

theorem guarded_fail : ∀ (gs : List String) {p s i : Nat} {ls : List (String × Nat)} {acc : List Tree},
    (∀ g ∈ gs, Lim aknExec inp (.ref g) p .fail) → Lim aknExec inp (.ref "hier_block_indent") p .fail →
    LimS aknExec inp (guardItems gs) s p i ls acc .fail
  | [], _, _, _, _, _, _, ht => limS_cons_fail ht
  | g :: gs, _, _, _, _, _, hg, ht =>
    limS_cons_ok (lim_not_fail (hg g List.mem_cons_self))
      (guarded_fail gs (fun g' hg' => hg g' (List.mem_cons_of_mem _ hg')) ht)

theorem item_reads (gs : List String) (hgs : ∀ g ∈ gs, g ∈ docRules) (b : Blk) (p q : Nat) (h : AtBlk inp p b q) :
    Reads aknExec inp (.seq (guardItems gs)) p q :=
  reads_seq (seqTo_guards (hbi_reads b p q h) gs fun g hg => docRule_fails_blk (hgs g hg) h)

theorem item_eof (gs : List String) (hgs : ∀ g ∈ gs, g ∈ docRules) :
    Lim aknExec inp (.seq (guardItems gs)) inp.size .fail :=
  lim_seq (guarded_fail gs (fun g hg => docRule_fails_eof (hgs g hg)) (fails_at_eof edge_facts.2.1))

theorem body_reads {rule ty marker : String} {gs : List String} (hl : aknExec.lookup rule = some (bodyRule ty marker gs))
    (hm : marker ∈ docRules) (hgs : ∀ g ∈ gs, g ∈ docRules)
    {bs : List Blk} {p : Nat} (h : AtBlks inp p bs inp.size) : Reads aknExec inp (.ref rule) p inp.size :=
  reads_ref hl (reads_typed (reads_seq (seqTo_cons (reads_opt_skip (docRule_fails hm h))
    (seqTo_cons (reads_star (reps_of_atBlks (item_reads gs hgs) bs p _ h) (item_eof gs hgs)) seqTo_nil))))

theorem structure_reads {rule ty bodyLabel body : String} (hl : aknExec.lookup rule = some (structureRule ty bodyLabel body))
    {bs : List Blk} (h : AtBlks inp 0 bs inp.size) (hbody : Reads aknExec inp (.ref body) 0 inp.size) :
    Reads aknExec inp (.ref rule) 0 inp.size :=
  reads_ref hl (reads_typed (reads_seq
    (seqTo_cons (reads_opt_skip (docRule_fails (by decide) h))
    (seqTo_cons (reads_opt_skip (docRule_fails (by decide) h))
    (seqTo_cons hbody
    (seqTo_cons (reads_opt_skip (docRule_fails_eof (by decide)))
    (seqTo_cons (reads_opt_skip (docRule_fails_eof (by decide))) seqTo_nil)))))))

/-- A judgment without part markers keeps everything in `arguments`, whose marker is optional. -/
theorem judgment_reads {bs : List Blk} (h : AtBlks inp 0 bs inp.size) : Reads aknExec inp (.ref "judgment") 0 inp.size :=
  have skip : ∀ r, r ∈ docRules → Reads aknExec inp (.opt (.ref r)) 0 0 :=
    fun r hr => reads_opt_skip (docRule_fails hr h)
  have skipE : ∀ r, r ∈ docRules → Reads aknExec inp (.opt (.ref r)) inp.size inp.size :=
    fun r hr => reads_opt_skip (docRule_fails_eof hr)
  have harg := body_reads (rule := "arguments") lkd.arguments (by decide) (by decide) h
  reads_ref lkd.judgment (reads_typed (reads_seq (seqTo_cons
    (reads_ref lkd.judgmentBody (reads_typed (reads_seq
      (seqTo_cons (skip "introduction" (by decide))
      (seqTo_cons (skip "background" (by decide))
      (seqTo_cons (reads_opt harg)
      (seqTo_cons (skipE "remedies" (by decide))
      (seqTo_cons (skipE "motivation" (by decide))
      (seqTo_cons (skipE "decision" (by decide)) seqTo_nil)))))))))
    (seqTo_cons (skipE "conclusions" (by decide))
    (seqTo_cons (skipE "attachments" (by decide)) seqTo_nil)))))

def sixRoots : List String := ["act", "bill", "doc", "statement", "debateReport", "judgment"]

theorem root_reads (root : String) (hroot : root ∈ sixRoots)
    (bs : List Blk) (h : AtBlks inp 0 bs inp.size) : Reads aknExec inp (.ref root) 0 inp.size := by
  have hopen := structure_reads (inp := inp) lkd.open_structure h (body_reads lkd.mainBody (by decide) (by decide) h)
  have hhier := structure_reads (inp := inp) lkd.hierarchical_structure h (body_reads lkd.body (by decide) (by decide) h)
  simp only [sixRoots, List.mem_cons, List.mem_nil_iff, or_false] at hroot
  rcases hroot with rfl | rfl | rfl | rfl | rfl | rfl
  · exact reads_ref lkd.act (reads_typed hhier)
  · exact reads_ref lkd.bill (reads_typed hhier)
  · exact reads_ref lkd.doc (reads_typed hopen)
  · exact reads_ref lkd.statement (reads_typed hopen)
  · exact reads_ref lkd.debateReport (reads_typed hopen)
  · exact judgment_reads h

/-! ## lines as blocks; flat documents -/

/-- What acceptance by the roots asks of the first segment (C13's `segStartOK` asks less: `blockChoosesLine`). -/
def segFirst : List Seg → Prop
  | .esc _ :: _ => True
  | .run c _ :: _ => plainStart c = true
  | [] => False

theorem starterOK_backslash : starterOK '\\' = true := by
  rw [starterOK, blockChoosesLine_backslash]
  decide +kernel

theorem atBlk_of_segs (p : Nat) (ss : List Seg) (l : List Char) (h : AtSegs inp p ss) (hf : segFirst ss)
    (k : Nat) (hn : NlRun inp (p + (segsSrc ss).length) (k + 1)) :
    AtBlk inp p (.line l) (p + (segsSrc ss).length + (k + 1)) := by
  obtain ⟨hne, c0, h0, hs⟩ : ss ≠ [] ∧ ∃ c0, inp[p]? = some c0 ∧ starterOK c0 = true := by
    match ss, h, hf with
    | .esc _ :: _, h, _ => exact ⟨by simp, _, h.1, starterOK_backslash⟩
    | .run c _ :: _, h, hf => exact ⟨by simp, c, h.1.1, starterOK_of_plainStart hf⟩
  obtain ⟨te, stop, hl, hst⟩ := mixed_line_run p ss hne h c0 h0 (starterOK_parts hs).2.2.1 k hn
  exact ⟨c0, h0, hs, by omega, _, hl, hst⟩

theorem atBlk_plain_line {p : Nat} {c : Char} {r : List Char} (h : AtPlain inp p (c :: r)) (hs : plainStart c = true)
    (k : Nat) (hn : NlRun inp (p + (c :: r).length) (k + 1)) :
    AtBlk inp p (.line (c :: r)) (p + (c :: r).length + (k + 1)) := by
  simpa [segsSrc, Seg.src] using atBlk_of_segs p [.run c r] (c :: r) (atSegs_of_atPlain h) hs k
    (by simpa [segsSrc, Seg.src] using hn)

theorem atBlks_of_atLines : ∀ (lines : List (List Char)) (p : Nat), AtLines inp p lines →
    AtBlks inp p (lines.map .line) inp.size
  | [], _, h => h
  | _ :: rest, p, ⟨⟨c, r, rfl, hs⟩, hp, hrest⟩ =>
    have htail := atBlks_of_atLines rest _ hrest
    ⟨_, atBlk_plain_line hp hs 0 ⟨atPlain_end hp, atBlks_head_ne_newline htail (by simp)⟩, htail⟩

end Bluebell
