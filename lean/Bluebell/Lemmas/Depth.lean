import Bluebell.Lemmas.PreParse
/-! For C12: each line's depth against the stack before it (`trace_chain`), the indentation pass under a scaling of all
indentation (`passT_scale`), and consistently indented text (`levelStack`). -/
namespace Bluebell

theorem handleIndent_less_delta (lvl t : Int) (r : List Int) (h : lvl < t) :
    (handleIndent lvl (t :: r)).2.delta ≤ 0 := by
  match r with
  | [] => simp [handleIndent_less_singleton h, Prefix.delta]
  | t2 :: r2 =>
    rw [handleIndent_less h]
    split
    · simp [Prefix.delta]
    · simp only [Prefix.delta]; omega

/-- `b` is an entry of `traceLines`, `st` and `d` the stack and the depth before it.  Nothing is said of the empty
stack, which a pass from `[-1]` never reaches. -/
def stepFrom (st : List Int) (d : Int) (b : Nat × Int × List Int) : Prop :=
  match st with
  | [] => True
  | t :: _ => ((b.1 : Int) > t → b.2.1 = d + 1) ∧ ((b.1 : Int) = t → b.2.1 = d ∧ b.2.2 = st) ∧
              ((b.1 : Int) < t → b.2.1 ≤ d)

def chainFrom : List Int → Int → List (Nat × Int × List Int) → Prop
  | _, _, [] => True
  | st, d, b :: rest => stepFrom st d b ∧ chainFrom b.2.2 b.2.1 rest

theorem stepFrom_handleIndent (k : Nat) (st : List Int) (d : Int) :
    stepFrom st d (k, d + (handleIndent k st).2.delta, (handleIndent k st).1) := by
  match st with
  | [] => trivial
  | t :: r =>
    refine ⟨fun h => ?_, fun h => ?_, fun h => ?_⟩
    · simp [handleIndent_more h, Prefix.delta]
    · simp [h, handleIndent_same, Prefix.delta]
    · have := handleIndent_less_delta k t r h
      show d + (handleIndent k (t :: r)).2.delta ≤ d
      omega

theorem trace_chain : ∀ (ls : List (List Char)) (st : List Int) (d : Int),
    chainFrom st d (traceLines ls st d)
  | [], _, _ => trivial
  | l :: ls, st, d => by
    unfold traceLines
    split
    · exact trace_chain ls st d
    · exact ⟨stepFrom_handleIndent _ st d, trace_chain ls _ _⟩

theorem head?_dropWhile_of_mem {lvl : Int} : ∀ {st : List Int}, st.Pairwise (· > ·) → lvl ∈ st →
    (st.dropWhile (lvl < ·)).head? = some lvl
  | t :: r, hp, hm => by
    rw [List.dropWhile_cons]
    have ⟨h1, h2⟩ := List.pairwise_cons.mp hp
    split
    · cases hm with
      | head => simp_all
      | tail _ hm => exact head?_dropWhile_of_mem h2 hm
    · cases hm with
      | head => rfl
      | tail _ hm => have := h1 lvl hm; simp_all

def StrictMonoInt (f : Int → Int) : Prop := ∀ x y, x < y → f x < f y

theorem StrictMonoInt.lt_iff {f : Int → Int} (hf : StrictMonoInt f) (x y : Int) : x < y ↔ f x < f y := by
  refine ⟨hf x y, fun h => ?_⟩
  rcases Int.lt_trichotomy x y with h1 | rfl | h1
  · exact h1
  · omega
  · have := hf y x h1; omega

theorem handleIndent_map (f : Int → Int) (hf : StrictMonoInt f) (lvl : Int) (st : List Int) :
    handleIndent (f lvl) (st.map f) = ((handleIndent lvl st).1.map f, (handleIndent lvl st).2) := by
  have hp : ((f lvl < ·) ∘ f : Int → Bool) = (lvl < ·) := by
    funext x; simp only [Function.comp, ← hf.lt_iff lvl x]
  match st with
  | [] => rfl
  | t :: r =>
    rcases Int.lt_trichotomy lvl t with hlt | rfl | hgt
    · match r with
      | [] =>
        show handleIndent (f lvl) [f t] = _
        rw [handleIndent_less_singleton hlt, handleIndent_less_singleton (hf lvl t hlt)]; rfl
      | t2 :: r2 =>
        show handleIndent (f lvl) (f t :: f t2 :: r2.map f) = _
        rw [handleIndent_less (hf lvl t hlt), handleIndent_less hlt]
        have e : (f t :: f t2 :: r2.map f) = (t :: t2 :: r2).map f := rfl
        rw [e, List.dropWhile_map, List.takeWhile_map, hp, List.length_map]
        by_cases h3 : lvl > t2
        · rw [if_pos h3, if_pos (hf t2 lvl h3)]; rfl
        · rw [if_neg h3, if_neg (fun e => h3 ((hf.lt_iff t2 lvl).mpr e))]
    · simp [handleIndent_same]
    · simp [handleIndent_more hgt, handleIndent_more (hf t lvl hgt)]

def scaleLine (c : Nat) (l : List Char) : List Char :=
  List.replicate (c * leadingSpaces l) ' ' ++ l.drop (leadingSpaces l)

/-- The sentinel `-1` is not scaled. -/
def scaleLevel (c : Nat) (x : Int) : Int := if x ≥ 0 then c * x else x

theorem scaleLevel_strictMono (c : Nat) (hc : 1 ≤ c) : StrictMonoInt (scaleLevel c) := by
  intro x y h
  have h1 : (c : Int) * x < c * y := Int.mul_lt_mul_of_pos_left h (by omega)
  have h2 : 0 ≤ y → 0 ≤ (c : Int) * y := Int.mul_nonneg (by omega)
  unfold scaleLevel
  split <;> split <;> omega

theorem head?_drop_leadingSpaces (l : List Char) : (l.drop (leadingSpaces l)).head? ≠ some ' ' := by
  rw [drop_leadingSpaces]
  exact head?_dropWhile_ne _ _ ' ' (by simp)

theorem leadingSpaces_scaleLine (c : Nat) (l : List Char) : leadingSpaces (scaleLine c l) = c * leadingSpaces l :=
  leadingSpaces_spaces_append _ _ (head?_drop_leadingSpaces l)

theorem drop_scaleLine (c : Nat) (l : List Char) :
    (scaleLine c l).drop (leadingSpaces (scaleLine c l)) = l.drop (leadingSpaces l) := by
  rw [leadingSpaces_scaleLine]
  unfold scaleLine
  simp

theorem scaleLine_eq_nil (c : Nat) (l : List Char) (hc : 1 ≤ c) : scaleLine c l = [] ↔ l = [] := by
  constructor
  · intro h
    obtain ⟨h1, h2⟩ := List.append_eq_nil_iff.mp h
    have : leadingSpaces l = 0 := by
      rcases Nat.mul_eq_zero.mp (by simpa using h1 : c * leadingSpaces l = 0) with h | h <;> omega
    simpa [this] using h2
  · rintro rfl; rfl

theorem passT_scale (c : Nat) (hc : 1 ≤ c) (ls : List (List Char)) (st : List Int) :
    passT (ls.map (scaleLine c)) (st.map (scaleLevel c)) =
      ((passT ls st).1, (passT ls st).2.map (scaleLevel c)) := by
  induction ls generalizing st with
  | nil => rfl
  | cons l ls ih =>
    simp only [List.map_cons, passT, scaleLine_eq_nil c l hc]
    split
    · simp only [ih]
    · have hk : ((leadingSpaces (scaleLine c l) : Nat) : Int) = scaleLevel c (leadingSpaces l) := by
        simp [leadingSpaces_scaleLine, scaleLevel]
      rw [hk, handleIndent_map _ (scaleLevel_strictMono c hc), drop_scaleLine]
      simp only [ih]

/-- The stack at level `lv` of a text indented by `n` spaces per level. -/
def levelStack (n : Nat) : Nat → List Int
  | 0 => [0, -1]
  | lv + 1 => ((n * (lv + 1) : Nat) : Int) :: levelStack n lv

/-- Each level is at most one deeper than the one before (`cur` first). -/
def Walk : Nat → List Nat → Prop
  | _, [] => True
  | cur, l :: ls => l ≤ cur + 1 ∧ Walk l ls

theorem levelStack_head (n lv : Nat) : ∃ r, levelStack n lv = ((n * lv : Nat) : Int) :: r := by
  cases lv with
  | zero => exact ⟨[-1], by simp [levelStack]⟩
  | succ m => exact ⟨levelStack n m, rfl⟩

theorem levelStack_length (n lv : Nat) : (levelStack n lv).length = lv + 2 := by
  induction lv with
  | zero => rfl
  | succ m ih => simp [levelStack, ih]

theorem levelStack_dropWhile (n : Nat) (hn : 1 ≤ n) (lv' : Nat) : ∀ (m : Nat), lv' ≤ m →
    (levelStack n m).dropWhile (((n * lv' : Nat) : Int) < ·) = levelStack n lv'
  | 0, h => by
    have : lv' = 0 := by omega
    subst this; simp [levelStack]
  | m + 1, h => by
    by_cases he : lv' = m + 1
    · subst he; simp [levelStack]
    · have : n * lv' < n * (m + 1) := Nat.mul_lt_mul_of_pos_left (by omega) (by omega)
      have : ((n * lv' : Nat) : Int) < ((n * (m + 1) : Nat) : Int) := by omega
      simp only [levelStack, List.dropWhile_cons, this, decide_true, if_true]
      exact levelStack_dropWhile n hn lv' m (by omega)

theorem handleIndent_levelStack (n : Nat) (hn : 1 ≤ n) (lv lv' : Nat) (h : lv' ≤ lv + 1) :
    (handleIndent ((n * lv' : Nat) : Int) (levelStack n lv)).1 = levelStack n lv' ∧
    (handleIndent ((n * lv' : Nat) : Int) (levelStack n lv)).2.delta = (lv' : Int) - lv := by
  have mono : ∀ {a b : Nat}, a < b → ((n * a : Nat) : Int) < ((n * b : Nat) : Int) := fun hab => by
    have := Nat.mul_lt_mul_of_pos_left hab (show 0 < n by omega); omega
  have e : (handleIndent ((n * lv' : Nat) : Int) (levelStack n lv)).1 = levelStack n lv' := by
    rcases Nat.lt_trichotomy lv' lv with hlt | rfl | hgt
    · obtain ⟨m, rfl⟩ : ∃ m, lv = m + 1 := ⟨lv - 1, by omega⟩
      obtain ⟨r2, hr2⟩ := levelStack_head n m
      have hD := levelStack_dropWhile n hn lv' (m + 1) (by omega)
      have hc : ¬ ((n * lv' : Nat) : Int) > ((n * m : Nat) : Int) := by
        have := Nat.mul_le_mul_left n (show lv' ≤ m by omega); omega
      simp only [levelStack, hr2] at hD ⊢
      rw [handleIndent_less (mono hlt), if_neg hc, hD]
    · obtain ⟨r, hr⟩ := levelStack_head n lv'
      rw [hr, handleIndent_same]
    · obtain rfl : lv' = lv + 1 := by omega
      obtain ⟨r, hr⟩ := levelStack_head n lv
      rw [hr, handleIndent_more (mono (Nat.lt_succ_self lv)), ← hr]; rfl
  have := handleIndent_length ((n * lv' : Nat) : Int) (levelStack n lv) (by rw [levelStack_length]; omega)
  rw [e, levelStack_length, levelStack_length] at this
  exact ⟨e, by omega⟩

end Bluebell
