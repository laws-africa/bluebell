import Bluebell.PreParse
/-! Texts as lists of characters and of lines.  The facts about `splitLines` come from two tools: induction over its
graph (`splitLines_ind`) and `splitLines_append`. -/
namespace Bluebell

theorem dropWhile_eq_nil_iff {p : Char → Bool} : ∀ {l : List Char}, l.dropWhile p = [] ↔ ∀ x ∈ l, p x = true
  | [] => by simp
  | c :: cs => by by_cases h : p c = true <;> simp [h, dropWhile_eq_nil_iff (l := cs)]

theorem getLast?_dropWhile {p : Char → Bool} {l : List Char} {c : Char}
    (h : (l.dropWhile p).getLast? = some c) : l.getLast? = some c := by
  rw [← List.takeWhile_append_dropWhile (p := p) (l := l), List.getLast?_append, h]; rfl

theorem head?_dropWhile_ne (p : Char → Bool) (l : List Char) (c : Char) (hp : p c = true) :
    (l.dropWhile p).head? ≠ some c := by
  intro h
  have := List.head?_dropWhile_not p l
  simp [h, hp] at this

theorem splitLines_ne_nil (s : List Char) : splitLines s ≠ [] := by
  cases s with
  | nil => simp [splitLines]
  | cons c cs =>
    unfold splitLines
    split
    · simp
    · split <;> simp

theorem splitLines_cons_nl (cs : List Char) : splitLines ('\n' :: cs) = [] :: splitLines cs := by
  simp [splitLines]

theorem splitLines_cons_other (c : Char) (cs : List Char) (h : c ≠ '\n') :
    ∃ l ls, splitLines cs = l :: ls ∧ splitLines (c :: cs) = (c :: l) :: ls := by
  cases hs : splitLines cs with
  | nil => exact absurd hs (splitLines_ne_nil cs)
  | cons l ls => exact ⟨l, ls, rfl, by simp [splitLines, h, hs]⟩

/-- Induction over the graph of `splitLines`: a fact about `splitLines s` is proved as `P s (splitLines s)`. -/
theorem splitLines_ind {P : List Char → List (List Char) → Prop} (nil : P [] [[]])
    (nl : ∀ {cs l ls}, P cs (l :: ls) → P ('\n' :: cs) ([] :: l :: ls))
    (cons : ∀ {c cs l ls}, c ≠ '\n' → P cs (l :: ls) → P (c :: cs) ((c :: l) :: ls)) :
    ∀ s, P s (splitLines s)
  | [] => nil
  | c :: cs => by
    have ih := splitLines_ind nil nl cons cs
    by_cases h : c = '\n'
    · obtain ⟨l, ls, hs⟩ := List.exists_cons_of_ne_nil (splitLines_ne_nil cs)
      rw [hs] at ih
      subst h
      simpa [splitLines, hs] using nl ih
    · obtain ⟨l, ls, h1, h2⟩ := splitLines_cons_other c cs h
      rw [h1] at ih
      rw [h2]
      exact cons h ih

theorem splitLines_no_nl : ∀ (s : List Char), ∀ l ∈ splitLines s, '\n' ∉ l :=
  splitLines_ind (P := fun _ ls => ∀ l ∈ ls, '\n' ∉ l) (by simp)
    (fun ih => List.forall_mem_cons.mpr ⟨List.not_mem_nil, ih⟩)
    (fun hc ih =>
      have ⟨h1, h2⟩ := List.forall_mem_cons.mp ih
      List.forall_mem_cons.mpr ⟨fun hm => (List.mem_cons.mp hm).elim (fun e => hc e.symm) h1, h2⟩)

theorem splitLines_mem : ∀ (s : List Char), ∀ l ∈ splitLines s, ∀ c ∈ l, c ∈ s :=
  splitLines_ind (P := fun s ls => ∀ l ∈ ls, ∀ c ∈ l, c ∈ s) (by simp)
    (fun ih l hl c hc => by
      cases hl with
      | head => cases hc
      | tail _ hl => exact List.mem_cons_of_mem _ (ih l hl c hc))
    (fun {_ _ l₀ _} _ ih l hl c hc => by
      cases hl with
      | head => exact List.mem_cons.mpr ((List.mem_cons.mp hc).imp_right (ih l₀ (List.mem_cons_self ..) c))
      | tail _ hl => exact List.mem_cons_of_mem _ (ih l (List.mem_cons_of_mem _ hl) c hc))

theorem joinLines_splitLines (s : List Char) : joinLines (splitLines s) = s :=
  splitLines_ind (P := fun s ls => joinLines ls = s) rfl (fun ih => by simpa [joinLines] using ih)
    (fun {_ _ _ ls} _ ih => by cases ls <;> simp_all [joinLines]) s

/-- The last line of `a` and the first line of `b` become one line.  Every fact below about `++`, a last character or
a newline in the middle is a case of this. -/
theorem splitLines_append (a b : List Char) : ∃ init last m B,
    splitLines a = init ++ [last] ∧ splitLines b = m :: B ∧ splitLines (a ++ b) = init ++ (last ++ m) :: B := by
  obtain ⟨m, B, hb⟩ := List.exists_cons_of_ne_nil (splitLines_ne_nil b)
  suffices ∃ init last, splitLines a = init ++ [last] ∧ splitLines (a ++ b) = init ++ (last ++ m) :: B by
    obtain ⟨init, last, h1, h2⟩ := this
    exact ⟨init, last, m, B, h1, hb, h2⟩
  refine splitLines_ind (P := fun a A => ∃ init last, A = init ++ [last] ∧ splitLines (a ++ b) = init ++ (last ++ m) :: B)
    ⟨[], [], rfl, hb⟩ ?_ ?_ a
  · rintro cs l ls ⟨init, last, h1, h2⟩
    exact ⟨[] :: init, last, by rw [h1]; rfl, by rw [List.cons_append, splitLines_cons_nl, h2]; rfl⟩
  · rintro c cs l ls hc ⟨init, last, h1, h2⟩
    obtain ⟨l', ls', e1, e2⟩ := splitLines_cons_other c (cs ++ b) hc
    rw [h2] at e1
    rw [List.cons_append, e2]
    -- the new character joins the first line, which is the last one too when there is only one
    cases init with
    | nil => cases h1; cases e1; exact ⟨[], c :: l, rfl, rfl⟩
    | cons i is => cases h1; cases e1; exact ⟨(c :: l) :: is, last, rfl, rfl⟩

theorem splitLines_append_nl (a b : List Char) :
    splitLines (a ++ '\n' :: b) = splitLines a ++ splitLines b := by
  obtain ⟨init, last, m, B, h1, h2, h3⟩ := splitLines_append a ('\n' :: b)
  cases (splitLines_cons_nl b).symm.trans h2
  simp [h1, h3]

theorem splitLines_snoc_other (s : List Char) (c : Char) (hc : c ≠ '\n') :
    ∃ init last, splitLines s = init ++ [last] ∧ splitLines (s ++ [c]) = init ++ [last ++ [c]] := by
  obtain ⟨init, last, m, B, h1, h2, h3⟩ := splitLines_append s [c]
  cases (show splitLines [c] = [[c]] by simp [splitLines, hc]).symm.trans h2
  exact ⟨init, last, h1, h3⟩

theorem splitLines_no_nl_self (l : List Char) (h : '\n' ∉ l) : splitLines l = [l] := by
  induction l with
  | nil => rfl
  | cons c cs ih =>
    have hc : c ≠ '\n' := fun e => h (e ▸ List.mem_cons_self ..)
    have hcs : '\n' ∉ cs := fun e => h (List.mem_cons_of_mem _ e)
    simp [splitLines, hc, ih hcs]

theorem splitLines_append_nl_of_not_mem (l rest : List Char) (h : '\n' ∉ l) :
    splitLines (l ++ '\n' :: rest) = l :: splitLines rest := by
  rw [splitLines_append_nl, splitLines_no_nl_self l h]; rfl

theorem splitLines_joinLines : ∀ (ls : List (List Char)), ls ≠ [] → (∀ l ∈ ls, '\n' ∉ l) →
    splitLines (joinLines ls) = ls := by
  intro ls
  induction ls with
  | nil => intro h; exact absurd rfl h
  | cons l ls ih =>
    intro _ hn
    cases ls with
    | nil => exact splitLines_no_nl_self l (hn l (List.mem_cons_self ..))
    | cons l2 ls2 =>
      have := ih (by simp) (fun x hx => hn x (List.mem_cons_of_mem _ hx))
      simp only [joinLines]
      rw [splitLines_append_nl_of_not_mem l _ (hn l (List.mem_cons_self ..)), this]

theorem joinLines_snoc (A : List (List Char)) (B : List Char) (hA : A ≠ []) :
    joinLines (A ++ [B]) = joinLines A ++ '\n' :: B := by
  induction A with
  | nil => exact absurd rfl hA
  | cons a as ih =>
    cases as with
    | nil => rfl
    | cons b bs =>
      have := ih (by simp)
      simp only [List.cons_append, joinLines] at this ⊢
      simp [this]

theorem joinLines_snoc_getLast (A : List (List Char)) (B : List Char) (c : Char) (hB : B.getLast? = some c) :
    (joinLines (A ++ [B])).getLast? = some c := by
  obtain ⟨B0, rfl⟩ := List.getLast?_eq_some_iff.mp hB
  cases A with
  | nil => simp [joinLines]
  | cons a as => rw [joinLines_snoc _ _ (by simp), ← List.cons_append, ← List.append_assoc, List.getLast?_concat]

theorem dropTrailing_append (p : Char → Bool) (x y : List Char) :
    dropTrailing p (x ++ y) = if dropTrailing p y = [] then dropTrailing p x else x ++ dropTrailing p y := by
  unfold dropTrailing
  rw [List.reverse_append, List.dropWhile_append]
  by_cases h : y.reverse.dropWhile p = [] <;> simp [h]

theorem dropTrailing_eq_nil_iff (p : Char → Bool) (s : List Char) :
    dropTrailing p s = [] ↔ ∀ c ∈ s, p c = true := by
  simp [dropTrailing, dropWhile_eq_nil_iff]

theorem dropTrailing_cons (p : Char → Bool) (c : Char) (cs : List Char) :
    dropTrailing p (c :: cs) = if dropTrailing p cs = [] then (if p c then [] else [c]) else c :: dropTrailing p cs := by
  rw [← List.singleton_append, dropTrailing_append]
  by_cases h : p c = true <;> simp [dropTrailing, h]

theorem dropTrailing_mem (p : Char → Bool) (s : List Char) : ∀ c ∈ dropTrailing p s, c ∈ s := by
  intro c hc
  have := List.mem_reverse.mp hc
  exact List.mem_reverse.mp ((List.dropWhile_sublist _).subset this)

theorem dropTrailing_getLast {p : Char → Bool} {s : List Char} {c : Char}
    (hc : (dropTrailing p s).getLast? = some c) : p c = false := by
  have := List.head?_dropWhile_not p s.reverse
  rw [dropTrailing, List.getLast?_reverse] at hc
  simpa [hc] using this

theorem dropTrailing_of_last_not (p : Char → Bool) (s : List Char) (c : Char)
    (h : s.getLast? = some c) (hp : p c = false) : dropTrailing p s = s := by
  obtain ⟨s0, rfl⟩ := List.getLast?_eq_some_iff.mp h
  simp [dropTrailing, hp]

theorem dropTrailing_head (p : Char → Bool) (s : List Char) (c : Char)
    (h : s.getLast? = some c) (hp : p c = false) : (dropTrailing p s).head? = s.head? := by
  rw [dropTrailing_of_last_not p s c h hp]

theorem dropTrailing_prefix (p : Char → Bool) (y : List Char) : ∃ t, y = dropTrailing p y ++ t := by
  refine ⟨(y.reverse.takeWhile p).reverse, ?_⟩
  unfold dropTrailing
  rw [← List.reverse_append, List.takeWhile_append_dropWhile, List.reverse_reverse]

theorem dropTrailing_head_of_ne_nil (p : Char → Bool) (y : List Char) (h : dropTrailing p y ≠ []) :
    (dropTrailing p y).head? = y.head? := by
  obtain ⟨t, ht⟩ := dropTrailing_prefix p y
  cases hd : dropTrailing p y with
  | nil => exact absurd hd h
  | cons a as => rw [hd] at ht; rw [ht]; rfl

theorem detab_append (n : Nat) (a b : List Char) : detab n (a ++ b) = detab n a ++ detab n b := by
  induction a with
  | nil => rfl
  | cons c cs ih =>
    by_cases h : c = '\t' <;> simp [detab, h, ih]

theorem detab_replicate_space (n k : Nat) : detab n (List.replicate k ' ') = List.replicate k ' ' := by
  induction k with
  | zero => rfl
  | succ k ih =>
    simp [List.replicate_succ, detab, ih]

theorem detab_tab (n : Nat) (a b : List Char) :
    detab n (a ++ '\t' :: b) = detab n (a ++ List.replicate n ' ' ++ b) := by
  rw [detab_append, detab_append, detab_append, detab_replicate_space]
  simp [detab]

theorem detab_no_tab (n : Nat) (s : List Char) : '\t' ∉ detab n s := by
  induction s with
  | nil => simp [detab]
  | cons c cs ih =>
    unfold detab
    split
    · simp [ih]
    · rename_i h; simpa [ih] using fun e => h e.symm

theorem detab_mem (n : Nat) (s : List Char) : ∀ c ∈ detab n s, c ∈ s ∨ c = ' ' := by
  induction s with
  | nil => simp [detab]
  | cons a as ih =>
    intro c hc
    unfold detab at hc
    split at hc
    · rcases List.mem_append.mp hc with h | h
      · exact Or.inr (List.eq_of_mem_replicate h)
      · exact (ih c h).imp_left (List.mem_cons_of_mem _)
    · rcases List.mem_cons.mp hc with rfl | h
      · exact Or.inl (List.mem_cons_self ..)
      · exact (ih c h).imp_left (List.mem_cons_of_mem _)

theorem detab_all_space (n : Nat) (a : List Char) (ha : ∀ c ∈ a, isPySpace c = true) :
    ∀ c ∈ detab n a, isPySpace c = true := by
  intro c hc
  rcases detab_mem n a c hc with h | h
  · exact ha c h
  · rw [h]; decide

theorem isPySpace_nl : isPySpace '\n' = true := by decide
theorem isPySpace_space : isPySpace ' ' = true := by decide

theorem ne_of_isPySpace_false {c : Char} (h : isPySpace c = false) : c ≠ '\n' ∧ c ≠ ' ' :=
  ⟨fun e => by simp [e, isPySpace_nl] at h, fun e => by simp [e, isPySpace_space] at h⟩

theorem all_space_replicate (k : Nat) : ∀ c ∈ List.replicate k ' ', isPySpace c = true := by
  intro c hc
  rw [(List.mem_replicate.mp hc).2]; exact isPySpace_space

theorem pyStrip_mem (x : List Char) : ∀ c ∈ pyStrip x, c ∈ x := by
  intro c hc
  exact (List.dropWhile_sublist _).subset (dropTrailing_mem _ _ c hc)

theorem pyStrip_around (a y b : List Char) (ha : ∀ c ∈ a, isPySpace c = true) (hb : ∀ c ∈ b, isPySpace c = true) :
    pyStrip (a ++ y ++ b) = pyStrip y := by
  unfold pyStrip
  rw [List.append_assoc, List.dropWhile_append, dropWhile_eq_nil_iff.mpr ha, List.dropWhile_append]
  by_cases hy : y.dropWhile isPySpace = []
  · simp [hy, dropWhile_eq_nil_iff.mpr hb]
  · simp [hy, dropTrailing_append, (dropTrailing_eq_nil_iff _ _).mpr hb]

theorem pyStrip_head {x : List Char} (h : pyStrip x ≠ []) :
    ∃ c, (pyStrip x).head? = some c ∧ isPySpace c = false := by
  unfold pyStrip at h ⊢
  rw [dropTrailing_head_of_ne_nil _ _ h]
  cases hy : x.dropWhile isPySpace with
  | nil => rw [hy] at h; simp [dropTrailing] at h
  | cons a as =>
    refine ⟨a, rfl, ?_⟩
    have := List.head_dropWhile_not isPySpace (l := x) (by rw [hy]; simp)
    simpa [hy] using this

theorem pyStrip_last {x : List Char} (h : pyStrip x ≠ []) :
    ∃ c, (pyStrip x).getLast? = some c ∧ isPySpace c = false := by
  cases hl : (pyStrip x).getLast? with
  | none => exact absurd (List.getLast?_eq_none_iff.mp hl) h
  | some c => exact ⟨c, rfl, dropTrailing_getLast hl⟩

end Bluebell
