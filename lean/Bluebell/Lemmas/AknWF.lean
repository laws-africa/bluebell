import Bluebell.Exec
import Bluebell.Peg.WF
/-! The certificate of the grammar that executes, checked by the kernel (regenerated on every run). -/
namespace Bluebell

theorem akn_wf : wfG aknExec aknNullable aknRanks aknRankTop = true := by decide +kernel

end Bluebell
