import Bluebell.Lemmas.AknWF
import Bluebell.Lemmas.PegFirst
/-!
`blockChoosesLine c`, a check on the regenerated grammar: in each of the five block-level choices every alternative before
the one that leads to `line` cannot start with `c` (first-character analysis).  Then, where the next character is `c`, all of
them evaluate to whatever `line` evaluates to.
-/
namespace Bluebell

def choiceAlts (g : Grammar) (rule : String) : PExps :=
  match g.lookup rule with
  | some (.choice es) => es
  | _ => .nil

/-- The first conjunct says that `rule` is a choice, so that `choiceAlts` is its list and not the default `.nil`. -/
def ruleChooses (c : Char) (rule target : String) : Bool :=
  aknExec.lookup rule == some (.choice (choiceAlts aknExec rule)) &&
    firstCandidate aknExec 100 (some c) (choiceAlts aknExec rule) == some target

def blockChoosesLine (c : Char) : Bool :=
  ruleChooses c "block_elements" "line" && ruleChooses c "speech_block_elements" "line" &&
  ruleChooses c "block_element" "block_elements" && ruleChooses c "hier_block_element" "block_element" &&
  ruleChooses c "speech_block_element" "speech_block_elements"

theorem blockChoosesLine_backslash : blockChoosesLine '\\' = true := by decide +kernel

def blockLevelRules : List String :=
  ["line", "block_elements", "block_element", "hier_block_element", "speech_block_elements", "speech_block_element"]

theorem lim_of_ruleChooses {inp : Array Char} {p : Nat} {c : Char} (hc : inp[p]? = some c) {rule target : String}
    (h : ruleChooses c rule target = true) {t : Tree} (ht : Lim aknExec inp (.ref target) p (.ok t)) :
    Lim aknExec inp (.ref rule) p (.ok t) := by
  simp only [ruleChooses, Bool.and_eq_true, beq_iff_eq] at h
  exact lim_rule_first_candidate akn_wf 100 p rule target h.1 (hc ▸ h.2) ht

theorem block_rules_follow_line {inp : Array Char} {p : Nat} {c : Char} (hc : inp[p]? = some c)
    (hb : blockChoosesLine c = true) {t : Tree} (hline : Lim aknExec inp (.ref "line") p (.ok t)) :
    ∀ r ∈ blockLevelRules, Lim aknExec inp (.ref r) p (.ok t) := by
  simp only [blockChoosesLine, Bool.and_eq_true] at hb
  obtain ⟨⟨⟨⟨hbe, hsbe⟩, hbl⟩, hh⟩, hs⟩ := hb
  have l1 := lim_of_ruleChooses hc hbe hline
  have l2 := lim_of_ruleChooses hc hbl l1
  have l4 := lim_of_ruleChooses hc hsbe hline
  intro r hr
  simp only [blockLevelRules, List.mem_cons, List.mem_nil_iff, or_false] at hr
  rcases hr with rfl | rfl | rfl | rfl | rfl | rfl
  · exact hline
  · exact l1
  · exact l2
  · exact lim_of_ruleChooses hc hh l2
  · exact l4
  · exact lim_of_ruleChooses hc hs l4

end Bluebell
