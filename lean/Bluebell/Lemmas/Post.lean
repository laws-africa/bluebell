import Bluebell.Post
/-! Footnote resolution leaves no `displaced` element (C02, C14) and its candidate search never returns a block that
contains the reference (C14); `normalise` and `set_attachment_titles` keep the in-order text (C03). -/
namespace Bluebell

mutual
def hasTag (tag : String) : Xml → Bool
  | .text _ => false
  | .elem t _ ks => t == tag || hasTagL tag ks
def hasTagL (tag : String) : List Xml → Bool
  | [] => false
  | k :: ks => hasTag tag k || hasTagL tag ks
end

theorem any_filter_eq_false {α} {f p : α → Bool} {l : List α} (h : l.any f = false) :
    (l.filter p).any f = false :=
  List.any_eq_false.mpr fun x hx => List.any_eq_false.mp h x (List.mem_filter.mp hx).1

theorem hasTagL_eq_any (tag : String) : ∀ l : List Xml, hasTagL tag l = l.any (hasTag tag)
  | [] => rfl
  | k :: ks => by rw [hasTagL, List.any_cons, hasTagL_eq_any tag ks]

theorem containsIdL_eq_any (id : Nat) : ∀ l : List Xml, containsIdL id l = l.any (containsId id)
  | [] => rfl
  | k :: ks => by rw [containsIdL, List.any_cons, containsIdL_eq_any id ks]

mutual
theorem inlineDisplaced_clean : ∀ (x : Xml), hasTagL "displaced" (inlineDisplaced x) = false
  | .text s => rfl
  | .elem t a ks => by
    have ih := inlineDisplacedL_clean ks
    rw [inlineDisplaced]
    split
    · -- the new `p`, then some of the processed children
      rw [hasTagL, hasTagL_eq_any, any_filter_eq_false (hasTagL_eq_any .. ▸ ih)]; rfl
    · next h => simp [hasTagL, hasTag, h, ih]
theorem inlineDisplacedL_clean : ∀ (ks : List Xml), hasTagL "displaced" (inlineDisplacedL ks) = false
  | [] => rfl
  | k :: ks => by
    have h1 := inlineDisplaced_clean k
    have h2 := inlineDisplacedL_clean ks
    rw [hasTagL_eq_any] at h1 h2 ⊢
    rw [inlineDisplacedL, List.any_append, h1, h2]; rfl
end

theorem resolveDisplaced_no_placeholder {x y : Xml} (h : resolveDisplaced x = .ok y) :
    hasTag "displaced" y = false := by
  unfold resolveDisplaced at h
  simp only at h
  split at h
  · cases h
  · next r _ =>
    split at h
    · cases h
    · split at h
      · next hy =>
        cases h
        simpa [hy, hasTagL] using inlineDisplaced_clean (unnumberX r)
      · cases h

mutual
theorem firstDisplaced_clean (rid : Nat) (m : Option String) (n : String) :
    ∀ (x c : Xml), firstDisplaced rid m n x = some c → containsIdL rid c.kids = false
  | .text _, c, h => by simp [firstDisplaced] at h
  | .elem t a ks, c, h => by
    rw [firstDisplaced] at h
    split at h
    · next hc => injection h with h; subst h; simpa [Xml.kids] using hc.2.2.2
    · exact firstDisplacedL_clean rid m n ks c h
theorem firstDisplacedL_clean (rid : Nat) (m : Option String) (n : String) :
    ∀ (l : List Xml) (c : Xml), firstDisplacedL rid m n l = some c → containsIdL rid c.kids = false
  | [], c, h => by simp [firstDisplacedL] at h
  | k :: ks, c, h => by
    rw [firstDisplacedL] at h
    split at h
    · next x hx => injection h with h; subst h; exact firstDisplaced_clean rid m n k x hx
    · exact firstDisplacedL_clean rid m n ks c h
end

/-- What the candidate search finds does not hold the reference (F23, repaired in 13653fd). -/
theorem found_clean {rid : Nat} {m : Option String} {n : String} {ancestors : List Xml} {content : Xml}
    (h : ancestors.findSome? (fun p => firstDisplaced rid m n p) = some content) :
    (elemKids content).any (containsId rid) = false := by
  obtain ⟨p, _, hp⟩ := List.exists_of_findSome?_eq_some h
  exact any_filter_eq_false (containsIdL_eq_any .. ▸ firstDisplaced_clean rid m n p content hp)

theorem iterText_of_isEmptyTarget {x : Xml} (h : isEmptyTarget x = true) : iterText x = "" := by
  unfold isEmptyTarget at h
  split at h
  · rfl
  · cases h

mutual
theorem normaliseX_text : ∀ (x : Xml), iterText (normaliseX x) = iterText x
  | .text s => by simp [normaliseX]
  | .elem t a ks => by simp [normaliseX, iterText, normaliseL_text ks]
theorem normaliseL_text : ∀ (ks : List Xml), iterTextL (normaliseL ks) = iterTextL ks
  | [] => by simp [normaliseL]
  | k :: ks => by
    rw [normaliseL]
    split
    · next h => simp [iterTextL, iterText_of_isEmptyTarget h, normaliseL_text ks]
    · simp [iterTextL, normaliseX_text k, normaliseL_text ks]
end

theorem setAliasInDoc_text (title : String) (doc : Xml) : iterText (setAliasInDoc title doc) = iterText doc := by
  cases doc with
  | text s => rfl
  | elem t a dk =>
    simp only [setAliasInDoc, iterText]
    induction dk with
    | nil => rfl
    | cons m ms ih =>
      simp only [List.map_cons, iterTextL]
      rw [ih]
      split <;> simp [iterText]

theorem setAliasFirst_text (title : String) : ∀ (ks : List Xml), iterTextL (setAliasFirst title ks) = iterTextL ks
  | [] => rfl
  | k :: ks => by
    have ih := setAliasFirst_text title ks
    unfold setAliasFirst
    split
    · split <;> simp [iterTextL, setAliasInDoc_text, ih]
    · simp [iterTextL, ih]

mutual
theorem titlesX_text : ∀ (x : Xml), iterText (titlesX x) = iterText x
  | .text s => by simp [titlesX]
  | .elem t a ks => by
    have ih := titlesL_text ks
    rw [titlesX]
    split
    · split <;> simp [iterText, setAliasFirst_text, ih]
    · simp [iterText, ih]
theorem titlesL_text : ∀ (ks : List Xml), iterTextL (titlesL ks) = iterTextL ks
  | [] => by simp [titlesL]
  | k :: ks => by simp [titlesL, iterTextL, titlesX_text k, titlesL_text ks]
end

end Bluebell
