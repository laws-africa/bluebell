import Bluebell.Lemmas.Lines
/-! Token-level view of `pre_parse`: the indentation pass as a list of tokens (`passT`), its invariants (the stack, the
balance of the markers, INDENT followed by content), and `preParse` as `unlines` of tokens. -/
namespace Bluebell

inductive Tok where
  | ind
  | ded
  | line (l : List Char)
deriving Repr, DecidableEq

def Tok.chars : Tok → List Char
  | .ind => [indentChar]
  | .ded => [dedentChar]
  | .line l => l

def unlines : List Tok → List Char
  | [] => []
  | t :: ts => t.chars ++ '\n' :: unlines ts

theorem unlines_append (a b : List Tok) : unlines (a ++ b) = unlines a ++ unlines b := by
  induction a with
  | nil => rfl
  | cons t ts ih => simp [unlines, ih]

def Prefix.toks : Prefix → List Tok
  | .same => []
  | .indent => [.ind]
  | .dedent k => List.replicate k .ded

theorem unlines_replicate_ded (k : Nat) :
    unlines (List.replicate k .ded) = (List.replicate k [dedentChar, '\n']).flatten := by
  induction k with
  | zero => rfl
  | succ k ih => simp [List.replicate_succ, unlines, Tok.chars, ih]

theorem Prefix.render_eq (p : Prefix) : p.render = unlines p.toks := by
  cases p with
  | same => rfl
  | indent => rfl
  | dedent k => simp [Prefix.render, Prefix.toks, unlines_replicate_ded]

def passT : List (List Char) → List Int → List Tok × List Int
  | [], st => ([], st)
  | l :: ls, st =>
    if l = [] then
      let r := passT ls st
      (.line [] :: r.1, r.2)
    else
      let k := leadingSpaces l
      let h := handleIndent k st
      let r := passT ls h.1
      (h.2.toks ++ .line (l.drop k) :: r.1, r.2)

theorem indentPass_eq (ls : List (List Char)) (st : List Int) :
    indentPass ls st = (unlines (passT ls st).1, (passT ls st).2) := by
  induction ls generalizing st with
  | nil => rfl
  | cons l ls ih =>
    unfold indentPass passT
    by_cases h : l = []
    · simp [h, ih, unlines, Tok.chars]
    · simp [h, ih, unlines, unlines_append, Tok.chars, Prefix.render_eq]

theorem drop_leadingSpaces (l : List Char) : l.drop (leadingSpaces l) = l.dropWhile (· = ' ') := by
  conv => lhs; arg 2; rw [← List.takeWhile_append_dropWhile (p := (· = ' ')) (l := l)]
  exact List.drop_left

theorem drop_leadingSpaces_ne_nil {l : List Char} (hne : l ≠ []) (hlast : l.getLast? ≠ some ' ') :
    l.drop (leadingSpaces l) ≠ [] := by
  rw [drop_leadingSpaces]
  intro h
  have hm := List.getLast_mem hne
  have := dropWhile_eq_nil_iff.mp h _ hm
  simp only [decide_eq_true_eq] at this
  apply hlast
  rw [List.getLast?_eq_some_getLast hne, this]

theorem leadingSpaces_spaces_append (k : Nat) (rest : List Char) (h : rest.head? ≠ some ' ') :
    leadingSpaces (List.replicate k ' ' ++ rest) = k := by
  unfold leadingSpaces
  cases rest with
  | nil => simp
  | cons a as =>
    have : a ≠ ' ' := by simpa using h
    simp [this]

def contentLines : List Tok → List (List Char)
  | [] => []
  | .line l :: ts => l :: contentLines ts
  | _ :: ts => contentLines ts

theorem contentLines_append (a b : List Tok) : contentLines (a ++ b) = contentLines a ++ contentLines b := by
  induction a with
  | nil => rfl
  | cons t ts ih => cases t <;> simp [contentLines, ih]

theorem contentLines_replicate_ded (k : Nat) : contentLines (List.replicate k .ded) = [] := by
  induction k with
  | zero => rfl
  | succ k ih => exact ih

theorem contentLines_prefix (p : Prefix) : contentLines p.toks = [] := by
  cases p with
  | same => rfl
  | indent => rfl
  | dedent k => exact contentLines_replicate_ded k

theorem contentLines_passT (ls : List (List Char)) (st : List Int) :
    contentLines (passT ls st).1 = ls.map (fun l => l.dropWhile (· = ' ')) := by
  induction ls generalizing st with
  | nil => rfl
  | cons l ls ih =>
    unfold passT
    split
    · simp [contentLines, *]
    · simp [contentLines, contentLines_append, contentLines_prefix, ih, drop_leadingSpaces]

/-- `popLoop` in closed form: the levels above `lvl` go, one DEDENT each and one more. -/
theorem popLoop_eq (lvl : Int) : ∀ (st : List Int) (k : Nat),
    popLoop lvl st k = (st.dropWhile (lvl < ·), k + 1 + (st.takeWhile (lvl < ·)).length)
  | [], k => rfl
  | t :: r, k => by
    by_cases h : lvl < t
    · have h' : ¬ lvl ≥ t := by omega
      simp only [popLoop, h', if_false, popLoop_eq lvl r (k + 1), List.dropWhile_cons, List.takeWhile_cons,
        h, decide_true, if_true, List.length_cons]
      congr 1; omega
    · simp [popLoop, h]

theorem handleIndent_same (t : Int) (r : List Int) : handleIndent t (t :: r) = (t :: r, .same) := by
  simp [handleIndent]

theorem handleIndent_more {lvl t : Int} {r : List Int} (h : lvl > t) :
    handleIndent lvl (t :: r) = (lvl :: t :: r, .indent) := by
  have : ¬ lvl = t := by omega
  simp [handleIndent, this, h]

theorem handleIndent_less_singleton {lvl t : Int} (h : lvl < t) : handleIndent lvl [t] = ([], .same) := by
  have h1 : ¬ lvl = t := by omega
  have h2 : ¬ lvl > t := by omega
  simp [handleIndent, h1, h2]

theorem handleIndent_less {lvl t t2 : Int} {r : List Int} (h : lvl < t) :
    handleIndent lvl (t :: t2 :: r) =
      if lvl > t2 then (lvl :: t2 :: r, .same)
      else ((t :: t2 :: r).dropWhile (lvl < ·), .dedent ((t :: t2 :: r).takeWhile (lvl < ·)).length) := by
  have h1 : ¬ lvl = t := by omega
  have h2 : ¬ lvl > t := by omega
  have hd : (t :: t2 :: r).dropWhile (lvl < ·) = (t2 :: r).dropWhile (lvl < ·) := by
    simp [h]
  have ht : ((t :: t2 :: r).takeWhile (lvl < ·)).length = ((t2 :: r).takeWhile (lvl < ·)).length + 1 := by
    simp [h]
  rw [hd, ht]
  simp only [handleIndent, h1, h2, if_false, popLoop_eq, Nat.add_comm 1]

theorem handleIndent_length (lvl : Int) (st : List Int) (h : 2 ≤ st.length) :
    ((handleIndent lvl st).1.length : Int) = st.length + (handleIndent lvl st).2.delta :=
  match st, h with
  | t :: t2 :: r, _ => by
    rcases Int.lt_trichotomy lvl t with hlt | rfl | hgt
    · rw [handleIndent_less hlt]
      split
      · simp [Prefix.delta]
      · have := congrArg List.length (List.takeWhile_append_dropWhile (p := (lvl < ·)) (l := t :: t2 :: r))
        simp only [Prefix.delta, List.length_append] at this ⊢; omega
    · simp [handleIndent_same, Prefix.delta]
    · simp [handleIndent_more hgt, Prefix.delta]

def StackInv (st : List Int) : Prop :=
  ∃ pre, st = pre ++ [0, -1] ∧ st.Pairwise (· > ·)

theorem StackInv.base : StackInv [0, -1] := ⟨[], rfl, by simp⟩

theorem StackInv.length_ge {st : List Int} (h : StackInv st) : 2 ≤ st.length := by
  obtain ⟨pre, rfl, _⟩ := h; simp

theorem StackInv.tail_of_pos {t : Int} {r : List Int} (h : StackInv (t :: r)) (ht : 0 < t) : StackInv r := by
  obtain ⟨pre, he, hp⟩ := h
  cases pre with
  | nil => simp at he; omega
  | cons a pre =>
    simp only [List.cons_append, List.cons.injEq] at he
    exact ⟨pre, he.2, (List.pairwise_cons.mp hp).2⟩

theorem StackInv.top_nonneg {t : Int} {r : List Int} (h : StackInv (t :: r)) : 0 ≤ t := by
  obtain ⟨pre, he, hp⟩ := h
  have h0 : (0 : Int) ∈ t :: r := by rw [he]; simp
  rcases List.mem_cons.mp h0 with e | h0
  · omega
  · have := (List.pairwise_cons.mp hp).1 0 h0; omega

theorem StackInv.dropWhile {st : List Int} (h : StackInv st) {lvl : Int} (hl : 0 ≤ lvl) :
    StackInv (st.dropWhile (lvl < ·)) := by
  induction st with
  | nil => exact h
  | cons t r ih =>
    rw [List.dropWhile_cons]
    split
    · exact ih (h.tail_of_pos (by simp_all; omega))
    · exact h

theorem StackInv.push_above {t lvl : Int} {r : List Int} (h : StackInv (t :: r)) (hl : lvl > t) :
    StackInv (lvl :: t :: r) := by
  obtain ⟨pre, he, hp⟩ := h
  refine ⟨lvl :: pre, by simp [he], List.pairwise_cons.mpr ⟨fun x hx => ?_, hp⟩⟩
  rcases List.mem_cons.mp hx with rfl | hx
  · exact hl
  · have := (List.pairwise_cons.mp hp).1 x hx; omega

theorem StackInv.handleIndent {lvl : Int} (hl : 0 ≤ lvl) {st : List Int} (h : StackInv st) :
    StackInv (handleIndent lvl st).1 :=
  match st, h with
  | [], h | [_], h => absurd h.length_ge (by simp)
  | t :: t2 :: r, h => by
    rcases Int.lt_trichotomy lvl t with hlt | rfl | hgt
    · rw [handleIndent_less hlt]
      split
      · rename_i h3; exact (h.tail_of_pos (by omega)).push_above h3
      · exact h.dropWhile hl
    · rwa [handleIndent_same]
    · rw [handleIndent_more hgt]; exact h.push_above hgt

/-- The depth after the tokens, from depth `d`; `none` as soon as a DEDENT closes more than is open. -/
def finalDepth : Nat → List Tok → Option Nat
  | d, [] => some d
  | d, .ind :: ts => finalDepth (d + 1) ts
  | d, .ded :: ts => if d = 0 then none else finalDepth (d - 1) ts
  | d, .line _ :: ts => finalDepth d ts

theorem finalDepth_append (d : Nat) (a b : List Tok) :
    finalDepth d (a ++ b) = (finalDepth d a).bind (fun d' => finalDepth d' b) := by
  induction a generalizing d with
  | nil => rfl
  | cons t ts ih =>
    cases t with
    | ind => simp [finalDepth, ih]
    | ded => simp only [List.cons_append, finalDepth]; split <;> simp [ih]
    | line l => simp [finalDepth, ih]

theorem finalDepth_replicate_ded (d k : Nat) (h : k ≤ d) :
    finalDepth d (List.replicate k .ded) = some (d - k) := by
  induction k generalizing d with
  | zero => rfl
  | succ k ih =>
    have hd : d ≠ 0 := by omega
    simp only [List.replicate_succ, finalDepth, hd, if_false]
    rw [ih (d - 1) (by omega)]
    congr 1; omega

theorem finalDepth_toks {d e : Nat} {p : Prefix} (h : (e : Int) = d + p.delta) :
    finalDepth d p.toks = some e := by
  cases p with
  | same | indent =>
    simp only [Prefix.delta] at h
    simp only [Prefix.toks, finalDepth]
    congr 1
    omega
  | dedent k =>
    simp only [Prefix.delta] at h
    rw [Prefix.toks, finalDepth_replicate_ded _ _ (by omega)]
    congr 1; omega

theorem passT_stack (ls : List (List Char)) (st : List Int) (h : StackInv st) :
    StackInv (passT ls st).2 ∧
    finalDepth (st.length - 2) (passT ls st).1 = some ((passT ls st).2.length - 2) := by
  induction ls generalizing st with
  | nil => exact ⟨h, rfl⟩
  | cons l ls ih =>
    unfold passT
    split
    · exact ih st h
    · have s1 : StackInv (handleIndent (leadingSpaces l) st).1 := h.handleIndent (by omega)
      have := handleIndent_length (leadingSpaces l) st h.length_ge
      have := h.length_ge
      have := s1.length_ge
      refine ⟨(ih _ s1).1, ?_⟩
      rw [finalDepth_append, finalDepth_toks (e := (handleIndent (leadingSpaces l) st).1.length - 2) (by omega)]
      exact (ih _ s1).2

/-- Every INDENT is directly followed by a non-empty line. -/
def indOk : List Tok → Prop
  | [] => True
  | [.ind] => False
  | .ind :: .line l :: ts => l ≠ [] ∧ indOk (.line l :: ts)
  | .ind :: _ :: _ => False
  | _ :: ts => indOk ts

theorem indOk_ded_append (k : Nat) (ts : List Tok) (h : indOk ts) : indOk (List.replicate k .ded ++ ts) := by
  induction k with
  | zero => simpa
  | succ k ih => simpa [List.replicate_succ, indOk] using ih

theorem indOk_cons {t : Tok} (ts : List Tok) (ht : t ≠ .ind) : indOk (t :: ts) ↔ indOk ts := by
  cases t <;> simp_all [indOk]

theorem indOk_ind_cons (ts : List Tok) :
    indOk (.ind :: ts) ↔ (∃ l ts', ts = .line l :: ts' ∧ l ≠ []) ∧ indOk ts := by
  match ts with
  | [] => simp [indOk]
  | .line l :: ts' => simp [indOk]
  | .ind :: _ => simp [indOk]
  | .ded :: _ => simp [indOk]

theorem indOk_of_cons (t : Tok) (ts : List Tok) (h : indOk (t :: ts)) : indOk ts := by
  cases t with
  | ind => exact ((indOk_ind_cons ts).mp h).2
  | ded => exact (indOk_cons ts (by simp)).mp h
  | line l => exact (indOk_cons ts (by simp)).mp h

theorem indOk_of_append : ∀ (a b : List Tok), indOk (a ++ b) → indOk b
  | [], _, h => h
  | t :: a, b, h => indOk_of_append a b (indOk_of_cons t (a ++ b) h)

theorem indOk_prefix_line (p : Prefix) (x : List Char) (ts : List Tok) (hx : x ≠ []) (h : indOk ts) :
    indOk (p.toks ++ .line x :: ts) := by
  cases p with
  | same => exact h
  | indent => exact ⟨hx, h⟩
  | dedent k => exact indOk_ded_append k _ h

/-- Stated with what follows the output (`tail`), so that the closing DEDENTs can be appended without a
fact about the last token of the pass. -/
theorem indOk_passT (ls : List (List Char)) (hc : ∀ l ∈ ls, l.getLast? ≠ some ' ') (st : List Int)
    (tail : List Tok) (ht : indOk tail) : indOk ((passT ls st).1 ++ tail) := by
  induction ls generalizing st with
  | nil => exact ht
  | cons l ls ih =>
    have ih := fun st => ih (fun l' hl' => hc l' (List.mem_cons_of_mem _ hl')) st
    unfold passT
    split
    · exact ih st
    · rename_i hl
      simpa using indOk_prefix_line _ _ _ (drop_leadingSpaces_ne_nil hl (hc l (List.mem_cons_self ..))) (ih _)

def rstripSpaces (l : List Char) : List Char := dropTrailing (· = ' ') l

def trimSpaces (l : List Char) : List Char := (rstripSpaces l).dropWhile (· = ' ')

theorem rstripSpaces_getLast (l : List Char) : (rstripSpaces l).getLast? ≠ some ' ' :=
  fun h => by simpa using dropTrailing_getLast h

theorem linesOf_snoc_nl (s : List Char) : linesOf (s ++ ['\n']) = splitLines s := by
  rw [linesOf, splitLines_append_nl]; exact List.dropLast_concat

theorem splitLines_stripTrailingSpaces (x : List Char) :
    splitLines (stripTrailingSpaces x) = (splitLines x).map rstripSpaces := by
  refine splitLines_joinLines _ (by simpa using splitLines_ne_nil x) (fun l hl hm => ?_)
  obtain ⟨l', hl', rfl⟩ := List.mem_map.mp hl
  exact splitLines_no_nl x l' hl' (dropTrailing_mem _ _ _ hm)

/-- `hlast` is what the `strip()` of `pre_parse` leaves. -/
theorem linesOf_ensureFinalNewline_stripTrailingSpaces {x : List Char}
    (hlast : ∃ c, x.getLast? = some c ∧ isPySpace c = false) :
    linesOf (ensureFinalNewline (stripTrailingSpaces x)) = (splitLines x).map rstripSpaces := by
  obtain ⟨c, hc, hcs⟩ := hlast
  obtain ⟨hnl, hsp⟩ := ne_of_isPySpace_false hcs
  obtain ⟨x0, rfl⟩ := List.getLast?_eq_some_iff.mp hc
  obtain ⟨init, last, _, hs⟩ := splitLines_snoc_other x0 c hnl
  have : (stripTrailingSpaces (x0 ++ [c])).getLast? = some c := by
    rw [stripTrailingSpaces, hs, List.map_append]
    refine joinLines_snoc_getLast _ _ c ?_
    rw [dropTrailing_of_last_not (· = ' ') (last ++ [c]) c (by simp) (by simpa using hsp)]
    simp
  rw [ensureFinalNewline, if_neg (by simpa [this] using hnl), linesOf_snoc_nl, splitLines_stripTrailingSpaces]

theorem first_line_visible {x : List Char} (hhead : ∃ c, x.head? = some c ∧ isPySpace c = false) :
    ∃ l0 rest, (splitLines x).map rstripSpaces = l0 :: rest ∧ l0 ≠ [] ∧ l0.head? ≠ some ' ' := by
  obtain ⟨c, hc, hcs⟩ := hhead
  obtain ⟨hnl, hsp⟩ := ne_of_isPySpace_false hcs
  match x, hc with
  | _ :: cs, rfl =>
    obtain ⟨l, ls, _, h2⟩ := splitLines_cons_other c cs hnl
    refine ⟨_, _, by rw [h2]; rfl, ?_⟩
    rw [rstripSpaces, dropTrailing_cons]
    split <;> simp [hsp]

/-- `l0 :: rest` are the normalised lines (`preParse_eq`); every level still open after them is closed. -/
def midToks (l0 : List Char) (rest : List (List Char)) : List Tok :=
  let r := passT rest [0, -1]
  .line l0 :: r.1 ++ List.replicate (r.2.length - 2) .ded

/-- `text[2:-2]` at the end of `pre_parse`. -/
theorem drop_unlines_ind_ded (ts : List Tok) :
    ((unlines (.ind :: ts ++ [.ded])).drop 2).dropLast.dropLast = unlines ts := by
  simp [unlines, unlines_append, Tok.chars]

theorem passT_first {l0 : List Char} (rest : List (List Char)) (h0 : l0 ≠ []) (hh : l0.head? ≠ some ' ') :
    passT (l0 :: rest) [-1] = (.ind :: .line l0 :: (passT rest [0, -1]).1, (passT rest [0, -1]).2) := by
  have hk : leadingSpaces l0 = 0 := leadingSpaces_spaces_append 0 l0 hh
  simp [passT, h0, hk, handleIndent, Prefix.toks]

theorem preParse_eq (n : Nat) (text : List Char) {l0 : List Char} {rest : List (List Char)}
    (hL : normLines n text = l0 :: rest) (h0 : l0 ≠ []) (hh : l0.head? ≠ some ' ') :
    preParse n text = unlines (midToks l0 rest) := by
  obtain ⟨m, hm⟩ : ∃ m, (passT rest [0, -1]).2.length = m + 2 :=
    ⟨_, (Nat.sub_add_cancel (passT_stack rest _ StackInv.base).1.length_ge).symm⟩
  rw [normLines] at hL
  simp only [preParse, hL, indentPass_eq, passT_first rest h0 hh, midToks, hm, Nat.add_sub_cancel,
    ← unlines_replicate_ded]
  rw [show m + 2 - 1 = m + 1 from rfl, List.replicate_succ', ← unlines_append, ← List.append_assoc]
  exact drop_unlines_ind_ded _

theorem finalDepth_midToks (l0 : List Char) (rest : List (List Char)) : finalDepth 0 (midToks l0 rest) = some 0 := by
  have : finalDepth 0 (passT rest [0, -1]).1 = _ := (passT_stack rest _ StackInv.base).2
  rw [midToks, finalDepth_append, finalDepth, this]
  simp [finalDepth_replicate_ded]

theorem indOk_midToks (l0 : List Char) {rest : List (List Char)} (hc : ∀ l ∈ rest, l.getLast? ≠ some ' ') :
    indOk (midToks l0 rest) :=
  (indOk_cons _ (by simp)).mpr (indOk_passT rest hc _ _ (by simpa using indOk_ded_append _ [] trivial))

theorem contentLines_midToks {l0 : List Char} (rest : List (List Char)) (hh : l0.head? ≠ some ' ') :
    contentLines (midToks l0 rest) = (l0 :: rest).map (fun l => l.dropWhile (· = ' ')) := by
  have : l0.dropWhile (· = ' ') = l0 := by cases l0 <;> simp_all
  simp [midToks, contentLines, contentLines_append, contentLines_replicate_ded, contentLines_passT, this]

end Bluebell
