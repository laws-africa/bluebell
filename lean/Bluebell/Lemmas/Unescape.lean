import Bluebell.Types
/-! Whichever characters a writer chooses to put a backslash before (`p`), `unescapeL` gives the text back, provided
the backslash is among them and no newline of the text is. -/
namespace Bluebell

theorem unescapeL_esc {d : Char} (h : d ≠ '\n') (l : List Char) : unescapeL ('\\' :: d :: l) = d :: unescapeL l := by
  simp [unescapeL, h]

theorem unescapeL_cons_of_ne {c : Char} (h : c ≠ '\\') : ∀ l : List Char, unescapeL (c :: l) = c :: unescapeL l
  | [] => rfl
  | _ :: _ => by simp [unescapeL, h]

theorem unescapeL_escape (p : Char → Bool) (hp : p '\\' = true) :
    ∀ l : List Char, (∀ c ∈ l, p c = true → c ≠ '\n') →
      unescapeL (l.flatMap fun c => if p c then ['\\', c] else [c]) = l
  | [], _ => rfl
  | c :: cs, h => by
    have ih := unescapeL_escape p hp cs (fun d m => h d (List.mem_cons_of_mem _ m))
    rw [List.flatMap_cons]
    by_cases hpc : p c = true
    · rw [if_pos hpc]
      exact (unescapeL_esc (h c (List.mem_cons_self ..) hpc) _).trans (congrArg _ ih)
    · have hb : c ≠ '\\' := fun e => hpc (e ▸ hp)
      rw [if_neg hpc]
      exact (unescapeL_cons_of_ne hb _).trans (congrArg _ ih)

end Bluebell
