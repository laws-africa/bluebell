import Bluebell.Eid
/-! The eId generator one call at a time.  `Fresh` is what `ensure_unique` guarantees about the id it returns
(`ensureUnique_fresh'`, for the fuel `getEid` passes); `getEid_spec` adds that `get_eid` leaves `mappings` alone.
`identifiable` and `assignedIds` are what the theorems about the rewrite pass are stated with. -/
namespace Bluebell

theorem collapsePunctAux_subset (b : Bool) (l : List Char) : collapsePunctAux b l ⊆ '-' :: l := by
  fun_induction collapsePunctAux b l with
  | case1 => exact List.nil_subset _
  | case2 c cs _ ih => exact ih.trans (List.cons_subset_cons _ (List.subset_cons_self ..))
  | case3 _ c cs _ _ ih =>
    exact List.cons_subset.mpr ⟨List.mem_cons_self, ih.trans (List.cons_subset_cons _ (List.subset_cons_self ..))⟩
  | case4 _ c cs _ ih =>
    exact List.cons_subset.mpr ⟨by simp, ih.trans (List.cons_subset_cons _ (List.subset_cons_self ..))⟩

theorem lookup_cons_if {κ β} [BEq κ] [LawfulBEq κ] [DecidableEq κ] (a k : κ) (b : β) (es : List (κ × β)) :
    List.lookup a ((k, b) :: es) = if a = k then some b else List.lookup a es := by
  rw [List.lookup_cons]; split <;> simp_all

/-- For any `f` with the two equations, to serve `bump` (keys `String`) and `bumpC` (keys `String × String`). -/
theorem lookup_of_bump_eqns {κ} [BEq κ] [LawfulBEq κ] [DecidableEq κ] {f : List (κ × Nat) → κ → List (κ × Nat)}
    (nil : ∀ k, f [] k = [(k, 1)])
    (cons : ∀ k' n rest k, f ((k', n) :: rest) k = if k' = k then (k', n + 1) :: rest else (k', n) :: f rest k)
    (k k2 : κ) : ∀ m, (f m k).lookup k2 = if k2 = k then some ((m.lookup k).getD 0 + 1) else m.lookup k2
  | [] => by simp [nil, lookup_cons_if]
  | (k', n) :: rest => by
    rw [cons]
    by_cases h : k' = k
    · subst h; by_cases h2 : k2 = k' <;> simp [lookup_cons_if, h2]
    · have h' : ¬ k = k' := fun e => h e.symm
      by_cases h2 : k2 = k'
      · subst h2; simp [h]
      · simp [lookup_cons_if, h, h', h2, lookup_of_bump_eqns nil cons k k2 rest]

theorem lookup_bump (m : List (String × Nat)) (k k2 : String) :
    (bump m k).lookup k2 = if k2 = k then some ((m.lookup k).getD 0 + 1) else m.lookup k2 :=
  lookup_of_bump_eqns (f := bump) (fun _ => rfl) (fun _ _ _ _ => rfl) k k2 m

theorem lookup_bumpC (m : List ((String × String) × Nat)) (k k2 : String × String) :
    (bumpC m k).lookup k2 = if k2 = k then some ((m.lookup k).getD 0 + 1) else m.lookup k2 :=
  lookup_of_bump_eqns (f := bumpC) (fun _ => rfl) (fun _ _ _ _ => rfl) k k2 m

theorem countOf_bump (m : List (String × Nat)) (k k' : String) :
    countOf (bump m k) k' = countOf m k' + if k' = k then 1 else 0 := by
  rw [countOf, lookup_bump]
  split <;> simp_all [countOf]

theorem countOf_le_bump (m : List (String × Nat)) (k k' : String) : countOf m k' ≤ countOf (bump m k) k' := by
  rw [countOf_bump]
  omega

/-- The termination measure of `ensure_unique`: a round that does not stop has found its candidate issued, and the
next candidate is longer, so fewer keys are at least as long as it (`mu_lt`). -/
def mu (m : List (String × Nat)) (n : Nat) : Nat := m.countP fun p => n ≤ p.1.length

theorem mu_mono (m : List (String × Nat)) {n n' : Nat} (h : n ≤ n') : mu m n' ≤ mu m n :=
  List.countP_mono_left fun p _ hp => by simp at hp ⊢; omega

theorem mu_bump (m : List (String × Nat)) {k : String} {n : Nat} (h : k.length < n) : mu (bump m k) n = mu m n := by
  induction m with
  | nil => simp [bump, mu, Nat.not_le.mpr h]
  | cons p m ih =>
    unfold bump
    split
    · simp [mu, List.countP_cons]
    · simp only [mu, List.countP_cons] at ih ⊢
      rw [ih]

theorem mu_lt {m : List (String × Nat)} {k : String} (hk : countOf m k ≠ 0) {n n' : Nat}
    (h1 : n ≤ k.length) (h2 : k.length < n') : mu m n' < mu m n := by
  cases h : m.lookup k with
  | none => simp [countOf, h] at hk
  | some c =>
    obtain ⟨l₁, l₂, rfl, -⟩ := List.lookup_eq_some_iff.mp h
    have a := mu_mono l₁ (Nat.le_trans h1 (Nat.le_of_lt h2))
    have b := mu_mono l₂ (Nat.le_trans h1 (Nat.le_of_lt h2))
    simp only [mu, List.countP_append, List.countP_cons, decide_eq_true_eq] at a b ⊢
    rw [if_neg (by omega), if_pos h1]
    omega

theorem length_underscore : "_".length = 1 := by decide

theorem length_suffix_gt (eid : String) (c : Nat) : eid.length < (eid ++ "_" ++ toString c).length := by
  simp only [String.length_append, length_underscore]
  omega

theorem ensureUnique_stop (fuel : Nat) {m : List (String × Nat)} {eid : String} (h : countOf m eid = 0) :
    ensureUnique (fuel + 1) m eid false = (bump m eid, eid) := by
  simp [ensureUnique, countOf_bump, h]

theorem ensureUnique_step (fuel : Nat) {m : List (String × Nat)} {eid : String} {nn : Bool}
    (h : countOf m eid ≠ 0 ∨ nn = true) :
    ensureUnique (fuel + 1) m eid nn =
      ensureUnique fuel (bump m eid) (eid ++ "_" ++ toString (countOf m eid + 1)) false := by
  rw [ensureUnique, countOf_bump, if_pos rfl, if_neg]
  rcases h with h | h
  · simp [h]
  · simp [h]

structure Fresh (m m' : List (String × Nat)) (eid e : String) : Prop where
  was_unissued : countOf m e = 0
  now_issued : 1 ≤ countOf m' e
  monotone : ∀ k, countOf m k ≤ countOf m' k
  extends_candidate : ∃ suffix, e = eid ++ suffix

theorem Fresh.stop {m : List (String × Nat)} {eid : String} (h : countOf m eid = 0) : Fresh m (bump m eid) eid eid :=
  ⟨h, by rw [countOf_bump, if_pos rfl]; omega, countOf_le_bump m eid, "", by simp⟩

theorem Fresh.step {m m' : List (String × Nat)} {eid eid' e : String} (h : Fresh (bump m eid) m' eid' e)
    (hp : ∃ suffix, eid' = eid ++ suffix) : Fresh m m' eid e := by
  obtain ⟨r1, r2, r3, s, rfl⟩ := h
  obtain ⟨p, rfl⟩ := hp
  exact ⟨Nat.le_zero.mp (r1 ▸ countOf_le_bump m eid _), r2, fun k => Nat.le_trans (countOf_le_bump m eid k) (r3 k),
    p ++ s, String.append_assoc ..⟩

theorem ensureUnique_fresh : ∀ (fuel : Nat) (m : List (String × Nat)) (eid : String), mu m eid.length < fuel →
    Fresh m (ensureUnique fuel m eid false).1 eid (ensureUnique fuel m eid false).2 := by
  intro fuel
  induction fuel with
  | zero => intro m eid h; cases h
  | succ fuel ih =>
    intro m eid h
    by_cases h0 : countOf m eid = 0
    · rw [ensureUnique_stop fuel h0]
      exact .stop h0
    · rw [ensureUnique_step fuel (Or.inl h0)]
      have hlen := length_suffix_gt eid (countOf m eid + 1)
      refine (ih _ _ ?_).step ⟨_, String.append_assoc ..⟩
      rw [mu_bump m hlen]
      have := mu_lt h0 (Nat.le_refl _) hlen
      omega

/-- `m.length + 2` is the fuel `getEid` passes: one forced round for an `nn` id, and one round more than there are keys. -/
theorem ensureUnique_fresh' (m : List (String × Nat)) (eid : String) (nn : Bool) :
    Fresh m (ensureUnique (m.length + 2) m eid nn).1 eid (ensureUnique (m.length + 2) m eid nn).2 := by
  cases nn with
  | false => exact ensureUnique_fresh _ m eid (Nat.lt_succ_of_le (Nat.le_succ_of_le List.countP_le_length))
  | true =>
    rw [ensureUnique_step _ (Or.inr rfl)]
    refine (ensureUnique_fresh _ _ _ ?_).step ⟨_, String.append_assoc ..⟩
    rw [mu_bump m (length_suffix_gt ..)]
    exact Nat.lt_succ_of_le List.countP_le_length

theorem getNumC_numbered (s : IdState) (pfx name : String) {n1 : String} (h : n1 ≠ "") :
    s.getNumC pfx name n1 = (s, n1, false) := by
  rw [IdState.getNumC, if_neg h]

theorem getNumC_nn (s : IdState) (pfx : String) {name : String} (h : numExpected.contains name = true) :
    s.getNumC pfx name "" = (s, "nn", true) := by
  rw [IdState.getNumC, if_pos rfl, if_pos h]

theorem getNumC_counted (s : IdState) (pfx : String) {name : String} (h : numExpected.contains name = false) :
    s.getNumC pfx name "" = ((s.incr pfx name).1, toString (s.incr pfx name).2, false) := by
  rw [IdState.getNumC, if_pos rfl, if_neg (by rw [h]; exact Bool.false_ne_true)]

/-- The new counters and the result depend on neither `eidCounter` nor `mappings`. -/
theorem getNumC_uniform (c : List ((String × String) × Nat)) (pfx name n1 : String) :
    ∃ c' r, ∀ e m, (IdState.mk c e m).getNumC pfx name n1 = (⟨c', e, m⟩, r) := by
  by_cases h1 : n1 = ""
  · subst h1
    cases h2 : numExpected.contains name with
    | true => exact ⟨c, _, fun _ _ => getNumC_nn _ pfx h2⟩
    | false =>
      exact ⟨bumpC c (pfx, name), (toString (((bumpC c (pfx, name)).lookup (pfx, name)).getD 0), false),
        fun _ _ => getNumC_counted _ pfx h2⟩
  · exact ⟨c, _, fun _ _ => getNumC_numbered _ pfx name h1⟩

theorem getEid_uniform (c : List ((String × String) × Nat)) (e : List (String × Nat)) (pfx name num : String) :
    ∃ c' n nn, ∀ m, (IdState.mk c e m).getNum pfx name num = (⟨c', e, m⟩, n, nn) ∧
      (IdState.mk c e m).getEid pfx name num =
        let u := ensureUnique (e.length + 2) e ((if pfx ≠ "" then pfx ++ "__" else "") ++ aliasOf name ++ "_" ++ n) nn
        (⟨c', u.1, m⟩, u.2) := by
  obtain ⟨c', ⟨n, nn⟩, h⟩ := getNumC_uniform c pfx name (cleanedNum num)
  refine ⟨c', n, nn, fun m => ⟨h e m, ?_⟩⟩
  unfold IdState.getEid IdState.getNum
  rw [h]

theorem getEid_spec (s : IdState) (pfx name num : String) :
    Fresh s.eidCounter (s.getEid pfx name num).1.eidCounter
      ((if pfx ≠ "" then pfx ++ "__" else "") ++ aliasOf name ++ "_" ++ (s.getNum pfx name num).2.1)
      (s.getEid pfx name num).2 ∧
    (s.getEid pfx name num).1.mappings = s.mappings := by
  obtain ⟨c, e, m⟩ := s
  obtain ⟨c', n, nn, h⟩ := getEid_uniform c e pfx name num
  rw [(h m).1, (h m).2]
  exact ⟨ensureUnique_fresh' e _ nn, rfl⟩

theorem lookup_setAttrList (k v : String) (a : List (String × String)) :
    (Xml.setAttrList k v a).lookup k = some v := by
  induction a with
  | nil => simp [Xml.setAttrList]
  | cons p a ih =>
    unfold Xml.setAttrList
    split
    · simp
    · rw [List.lookup_cons, ih]
      split <;> simp_all

/-- `if old_eid != new_eid: element.set('eId', new_eid)` in `rewrite_eid` -/
def newAttrs (attrs : List (String × String)) (new : String) : List (String × String) :=
  if (attrs.lookup "eId").getD "" ≠ new then Xml.setAttrList "eId" new attrs else attrs

theorem newAttrs_lookup {attrs : List (String × String)} {new : String} :
    ((newAttrs attrs new).lookup "eId").getD "" = new := by
  unfold newAttrs
  by_cases h : (attrs.lookup "eId").getD "" ≠ new
  · rw [if_pos h, lookup_setAttrList]; rfl
  · rw [if_neg h]
    exact Decidable.not_not.mp h

theorem newAttrs_of_lookup {attrs : List (String × String)} {new : String}
    (h : (attrs.lookup "eId").getD "" = new) : newAttrs attrs new = attrs :=
  if_neg fun h' => h' h

def identifiable (tag : String) : Bool := (passLower tag).isNone && !isExempt tag

theorem ne_meta_of_identifiable {tag : String} (h : identifiable tag = true) : tag ≠ "meta" := by
  rintro rfl; exact absurd h (by decide)

mutual
def assignedIds : Xml → List String
  | .text _ => []
  | .elem tag attrs kids =>
    if tag = "meta" then []
    else (if identifiable tag then [(attrs.lookup "eId").getD ""] else []) ++ assignedIdsL kids
def assignedIdsL : List Xml → List String
  | [] => []
  | k :: ks => assignedIds k ++ assignedIdsL ks
end

end Bluebell
