import Bluebell.Lemmas.AknWF
import Bluebell.Lemmas.PegFirst
import Bluebell.Lemmas.PegReads
import Bluebell.Types
/-!
A line is a list of segments (`Seg`), each an escape `\c` or a maximal run of plain characters (those of the hand-optimised
plain-text rule `[^*/_{\n\\]`), and a newline.  Rule `line` reads it as one node per segment: at a backslash the escape
alternative wins before any marker rule is consulted, at a plain character the plain-text rule takes the whole run.
`Line.to_dict` makes of it one paragraph whose text is the line without its escaping backslashes.  Only the content of the
line is followed tree by tree, since `Line.to_dict` reads it; its end is followed by offsets (`Reads`).
-/
namespace Bluebell

/-- The rules of the executing grammar that this file reads, as one record: one `decide` checks them all (`lk`),
and a grammar edit that changes any of them fails there. -/
structure LineRules : Prop where
  line : aknExec.lookup "line" = some (.typed "Line" (.seq (.cons [] (.notP (.ref "dedent"))
    (.cons ["content"] (.plus (.ref "inline")) (.cons ["eol"] (.ref "eol") .nil)))))
  dedent : aknExec.lookup "dedent" = some (.seq (.cons [] (.lit [Char.ofNat 15]) (.cons ["eol"] (.ref "eol") .nil)))
  eol : aknExec.lookup "eol" = some (.seq (.cons ["newline"] (.ref "newline") (.cons [] (.star (.ref "empty_line")) .nil)))
  empty_line : aknExec.lookup "empty_line" = some (.ref "newline")
  newline : aknExec.lookup "newline" = some (.lit ['\n'])
  escape : aknExec.lookup "escape" = some (.seq (.cons [] (.lit ['\\']) (.cons [] (.cls true ['\n']) .nil)))
  inline : aknExec.lookup "inline" = some (.choice (.cons (.ref "non_inline_start") (.cons (.ref "escape")
    (.cons (.ref "inline_marker") (.cons (.typed "InlineText" (.cls true ['\n'])) .nil)))))
  nis : aknExec.lookup "non_inline_start" = some (.rx1 overrideNeg overrideCls)

instance : Decidable LineRules :=
  decidable_of_iff (_ ∧ _ ∧ _ ∧ _ ∧ _ ∧ _ ∧ _ ∧ _)
    ⟨fun ⟨a, b, c, d, e, f, g, h⟩ => ⟨a, b, c, d, e, f, g, h⟩, fun ⟨a, b, c, d, e, f, g, h⟩ => ⟨a, b, c, d, e, f, g, h⟩⟩

theorem lk : LineRules := by decide +kernel

def isPlain (c : Char) : Bool := clsMatch overrideNeg overrideCls c

theorem backslash_not_plain : isPlain '\\' = false := by decide +kernel
theorem newline_not_plain : isPlain '\n' = false := by decide +kernel

theorem plain_not_backslash (c : Char) (h : isPlain c = true) : c ≠ '\\' :=
  fun e => by rw [e, backslash_not_plain] at h; cases h

variable {inp : Array Char}

/-- `c = none`: at the end of the text.  100 is the depth to which references are followed; the analysis is sound at any
depth (`Runs.mayStart`), and this one decides every table entry used. -/
def cannotStart (c : Option Char) (r : String) : Bool :=
  !mayStart aknExec 100 (.ref r) c

theorem fails_of_cannotStart {r : String} {p : Nat} (h : cannotStart inp[p]? r = true) :
    Lim aknExec inp (.ref r) p .fail :=
  lim_fail_of_cannot_start akn_wf 100 r p (by simpa [cannotStart] using h)

theorem fails_at {r : String} {p : Nat} {c : Char} (hc : inp[p]? = some c) (h : cannotStart (some c) r = true) :
    Lim aknExec inp (.ref r) p .fail :=
  fails_of_cannotStart (hc ▸ h)

theorem fails_at_eof {r : String} (h : cannotStart none r = true) : Lim aknExec inp (.ref r) inp.size .fail :=
  fails_of_cannotStart (by simpa using h)

theorem marker_not_at_newline : cannotStart (some '\n') "inline_marker" = true := by decide +kernel

def ReadsAt (arr : Array Char) (p : Nat) (s : List Char) : Prop := ∀ i, i < s.length → arr[p + i]? = s[i]?

theorem readsAt_cons {p : Nat} {c : Char} {s : List Char} :
    ReadsAt inp p (c :: s) ↔ inp[p]? = some c ∧ ReadsAt inp (p + 1) s := by
  refine ⟨fun h => ⟨h 0 (by simp), fun i hi => ?_⟩, fun ⟨h0, h1⟩ i hi => ?_⟩
  · have := h (i + 1) (by simpa using hi)
    simpa [Nat.add_assoc, Nat.add_comm 1] using this
  · cases i with
    | zero => simpa using h0
    | succ i =>
      have := h1 i (by simpa using hi)
      simpa [Nat.add_assoc, Nat.add_comm 1] using this

theorem readsAt_append {p : Nat} {a b : List Char} (h : ReadsAt inp p (a ++ b)) :
    ReadsAt inp p a ∧ ReadsAt inp (p + a.length) b := by
  refine ⟨fun i hi => ?_, fun i hi => ?_⟩
  · have := h i (by simp; omega)
    rwa [List.getElem?_append_left hi] at this
  · have := h (a.length + i) (by simp; omega)
    rw [List.getElem?_append_right (by omega)] at this
    simpa [Nat.add_assoc] using this

theorem readsAt_pair {q : Nat} {a b : Char} (h0 : inp[q]? = some a) (h1 : inp[q + 1]? = some b) : ReadsAt inp q [a, b]
  | 0, _ => h0
  | 1, _ => h1
  | _ + 2, h => absurd h (by simp)

theorem extract_readsAt {l : List Char} {q : Nat} (h : ReadsAt inp q l) :
    (inp.extract q (q + l.length)).toList = l := by
  apply List.ext_getElem?
  intro i
  simp only [Array.getElem?_toList, Array.getElem?_extract]
  by_cases hi : i < l.length
  · have hlt : q + i < inp.size := lt_size_of_get ((h i hi).trans (List.getElem?_eq_getElem hi))
    rw [if_pos (by omega)]
    exact h i hi
  · rw [if_neg (by omega), List.getElem?_eq_none (by omega)]

/-! ## the shapes of a line

`AtEsc` and `AtPlain` describe a whole line up to its newline; `AtRun` a run of plain characters, whatever follows. -/

def AtEsc (inp : Array Char) : Nat → List Char → Prop
  | q, [] => inp[q]? = some '\n'
  | q, c :: r => inp[q]? = some '\\' ∧ inp[q+1]? = some c ∧ c ≠ '\n' ∧ AtEsc inp (q + 2) r

def AtPlain (inp : Array Char) : Nat → List Char → Prop
  | q, [] => inp[q]? = some '\n'
  | q, c :: r => inp[q]? = some c ∧ isPlain c = true ∧ AtPlain inp (q + 1) r

def AtRun (inp : Array Char) : Nat → List Char → Prop
  | _, [] => True
  | q, c :: r => inp[q]? = some c ∧ isPlain c = true ∧ AtRun inp (q + 1) r

inductive Seg where
  | esc (c : Char)
  | run (c : Char) (r : List Char)

def Seg.src : Seg → List Char
  | .esc c => ['\\', c]
  | .run c r => c :: r

def Seg.txt : Seg → List Char
  | .esc c => [c]
  | .run c r => c :: r

def segsSrc : List Seg → List Char
  | [] => []
  | s :: ss => s.src ++ segsSrc ss

def segsTxt : List Seg → List Char
  | [] => []
  | s :: ss => s.txt ++ segsTxt ss

def AtSegs (inp : Array Char) : Nat → List Seg → Prop
  | q, [] => inp[q]? = some '\n'
  | q, .esc c :: ss => inp[q]? = some '\\' ∧ inp[q + 1]? = some c ∧ c ≠ '\n' ∧ AtSegs inp (q + 2) ss
  | q, .run c r :: ss => AtRun inp q (c :: r) ∧ (∃ x, inp[q + (c :: r).length]? = some x ∧ isPlain x = false) ∧
      AtSegs inp (q + (c :: r).length) ss

-- decidable: the `example`s in `Props` check instances of the shapes by `decide`
instance AtEsc.instDecidable (inp : Array Char) : ∀ q w, Decidable (AtEsc inp q w)
  | _, [] => inferInstanceAs (Decidable (_ = _))
  | q, _ :: w => have := AtEsc.instDecidable inp (q + 2) w; inferInstanceAs (Decidable (_ ∧ _ ∧ _ ∧ _))

instance AtPlain.instDecidable (inp : Array Char) : ∀ q l, Decidable (AtPlain inp q l)
  | _, [] => inferInstanceAs (Decidable (_ = _))
  | q, _ :: l => have := AtPlain.instDecidable inp (q + 1) l; inferInstanceAs (Decidable (_ ∧ _ ∧ _))

instance AtRun.instDecidable (inp : Array Char) : ∀ q l, Decidable (AtRun inp q l)
  | _, [] => inferInstanceAs (Decidable True)
  | q, _ :: l => have := AtRun.instDecidable inp (q + 1) l; inferInstanceAs (Decidable (_ ∧ _ ∧ _))

instance AtSegs.instDecidable (inp : Array Char) : ∀ q ss, Decidable (AtSegs inp q ss)
  | _, [] => inferInstanceAs (Decidable (_ = _))
  | q, .esc _ :: ss => have := AtSegs.instDecidable inp (q + 2) ss; inferInstanceAs (Decidable (_ ∧ _ ∧ _ ∧ _))
  | q, .run c r :: ss =>
    have := AtSegs.instDecidable inp (q + (c :: r).length) ss
    have : Decidable (∃ x, inp[q + (c :: r).length]? = some x ∧ isPlain x = false) :=
      decidable_of_iff (inp[q + (c :: r).length]?.any (!isPlain ·) = true) (by cases inp[q + (c :: r).length]? <;> simp)
    inferInstanceAs (Decidable (_ ∧ _ ∧ _))

theorem segsSrc_length_cons (q : Nat) (s : Seg) (ss : List Seg) :
    q + (segsSrc (s :: ss)).length = q + s.src.length + (segsSrc ss).length := by
  simp only [segsSrc, List.length_append, Nat.add_assoc]

theorem atSegs_end : ∀ (ss : List Seg) (q : Nat), AtSegs inp q ss → inp[q + (segsSrc ss).length]? = some '\n'
  | [], _, h => h
  | .esc c :: ss, q, h => segsSrc_length_cons q (.esc c) ss ▸ atSegs_end ss (q + 2) h.2.2.2
  | .run c r :: ss, q, h => segsSrc_length_cons q (.run c r) ss ▸ atSegs_end ss (q + (c :: r).length) h.2.2

theorem atRun_iff : ∀ {l : List Char} {q : Nat}, AtRun inp q l ↔ ReadsAt inp q l ∧ ∀ c ∈ l, isPlain c = true
  | [], _ => by simp [AtRun, ReadsAt]
  | c :: r, q => by
    rw [AtRun, atRun_iff, readsAt_cons, List.forall_mem_cons]
    exact ⟨fun ⟨a, b, c, d⟩ => ⟨⟨a, c⟩, b, d⟩, fun ⟨⟨a, c⟩, b, d⟩ => ⟨a, b, c, d⟩⟩

theorem atRun_of_chars (inp : Array Char) : ∀ (l : List Char) (p : Nat),
    (∀ i (h : i < l.length), inp[p + i]? = some l[i]) → (∀ c ∈ l, isPlain c = true) → AtRun inp p l :=
  fun l _ hc hp => atRun_iff.2 ⟨fun i hi => by rw [hc i hi, List.getElem?_eq_getElem hi], hp⟩

theorem atSegs_bound : ∀ (ss : List Seg) (q : Nat), AtSegs inp q ss → q + (segsSrc ss).length < inp.size :=
  fun ss q h => lt_size_of_get (atSegs_end ss q h)

theorem atPlain_iff : ∀ (l : List Char) (q : Nat), AtPlain inp q l ↔ AtRun inp q l ∧ inp[q + l.length]? = some '\n'
  | [], q => by simp [AtPlain, AtRun]
  | c :: r, q => by
      simp only [AtPlain, AtRun, atPlain_iff r (q + 1), List.length_cons, and_assoc]
      rw [show q + 1 + r.length = q + (r.length + 1) by omega]

theorem atSegs_of_atPlain {q : Nat} {c : Char} {r : List Char} (h : AtPlain inp q (c :: r)) : AtSegs inp q [.run c r] :=
  have h' := (atPlain_iff (c :: r) q).1 h
  ⟨h'.1, ⟨'\n', h'.2, newline_not_plain⟩, h'.2⟩

theorem atSegs_of_atEsc : ∀ (w : List Char) (q : Nat), AtEsc inp q w → AtSegs inp q (w.map .esc)
  | [], _, h => h
  | _ :: w, q, h => ⟨h.1, h.2.1, h.2.2.1, atSegs_of_atEsc w (q + 2) h.2.2.2⟩

theorem atPlain_end {l : List Char} {q : Nat} (h : AtPlain inp q l) : inp[q + l.length]? = some '\n' :=
  ((atPlain_iff l q).1 h).2

theorem segsTxt_esc : ∀ (w : List Char), segsTxt (w.map .esc) = w
  | [] => rfl
  | _ :: w => by simp [segsTxt, Seg.txt, segsTxt_esc w]

theorem segsTxt_ne_nil : ∀ {ss : List Seg}, ss ≠ [] → segsTxt ss ≠ []
  | .esc _ :: _, _ => by simp [segsTxt, Seg.txt]
  | .run _ _ :: _, _ => by simp [segsTxt, Seg.txt]

/-! ## `inline` at a backslash, at a newline, at a plain character -/

theorem scan_stops {p k : Nat} {neg : Bool} {cs : List Char} {c : Char}
    (h0 : inp[p]? = some c) (hm : clsMatch neg cs c = false) : scanCls inp neg cs k p = p := by
  cases k with
  | zero => rfl
  | succ k => simp [scanCls, h0, hm]

def escNode (q : Nat) : Tree := .node q (q + 2) [] [] [Tree.leaf q (q+1), Tree.leaf (q+1) (q+2)]

/-- Fuel: the evaluation nests 9 deep; 12 leaves room. -/
theorem inline_reads_escape (inp : Array Char) (p : Nat) (c : Char) (n : Nat)
    (h0 : inp[p]? = some '\\') (h1 : inp[p+1]? = some c) (hc : c ≠ '\n') :
    eval aknExec inp (n + 12) (.ref "inline") p = .ok (escNode p) := by
  have hcls : clsMatch true ['\n'] c = true := by simp [clsMatch, hc]
  simp only [eval, evalChoice, evalSeq, lk.inline, lk.nis, lk.escape,
    scan_stops h0 backslash_not_plain, Nat.lt_irrefl, if_false, litMatch, h0]
  simp [h1, hcls, addLabels, Tree.leaf, Tree.stop, escNode]

theorem lim_inline_esc {q : Nat} {c : Char} (h0 : inp[q]? = some '\\') (h1 : inp[q + 1]? = some c) (hc : c ≠ '\n') :
    Lim aknExec inp (.ref "inline") q (.ok (escNode q)) :=
  lim_of_eval (inline_reads_escape inp q c 0 h0 h1 hc) trivial

theorem marker_fails {rule : String} {ch : Char} {rest : PItems}
    (hl : aknExec.lookup rule = some (.seq (.cons [] (.lit [ch]) rest)))
    {p : Nat} {c : Char} (h0 : inp[p]? = some c) (hc : c ≠ ch) : Lim aknExec inp (.ref rule) p .fail :=
  lim_ref hl (lim_seq (limS_cons_fail (lim_lit_fail (by simp [litMatch, h0, hc]))))

theorem inline_fails_at_newline {q : Nat} (hq : inp[q]? = some '\n') : Lim aknExec inp (.ref "inline") q .fail := by
  have h1 : Lim aknExec inp (.ref "non_inline_start") q .fail :=
    lim_ref lk.nis (lim_rx1_fail (scan_stops hq newline_not_plain))
  have h2 : Lim aknExec inp (.ref "escape") q .fail := marker_fails lk.escape hq (by decide)
  have h3 : Lim aknExec inp (.ref "inline_marker") q .fail := fails_at hq marker_not_at_newline
  have h4 : Lim aknExec inp (.typed "InlineText" (.cls true ['\n'])) q .fail :=
    lim_typed_fail (lim_cls_fail hq (by decide))
  exact lim_ref lk.inline (lim_choice (limC_cons_fail h1 (limC_cons_fail h2 (limC_cons_fail h3 (limC_cons_fail h4 limC_nil)))))

def plainNode (q stop : Nat) : Tree := .node q stop [] [] [Tree.leaf q stop]

theorem scan_run : ∀ (l : List Char) (q k : Nat), AtRun inp q l →
    (∃ x, inp[q + l.length]? = some x ∧ isPlain x = false) → l.length ≤ k →
    scanCls inp overrideNeg overrideCls k q = q + l.length
  | [], q, k, _, ⟨x, hx, hp⟩, _ => scan_stops hx hp
  | c :: r, q, k, h, hx, hk => by
      obtain ⟨k', rfl⟩ : ∃ k', k = k' + 1 := ⟨k - 1, by simp at hk; omega⟩
      have hp : clsMatch overrideNeg overrideCls c = true := h.2.1
      simp only [scanCls, h.1, hp, if_true]
      have hx' : ∃ x, inp[q + 1 + r.length]? = some x ∧ isPlain x = false := by
        obtain ⟨x, h1, h2⟩ := hx
        exact ⟨x, by simpa [List.length_cons, Nat.add_assoc, Nat.add_comm 1] using h1, h2⟩
      rw [scan_run r (q + 1) k' h.2.2 hx' (by simp at hk; omega)]
      simp [List.length_cons]; omega

theorem lim_inline_run {q : Nat} {c : Char} {r : List Char} (h : AtRun inp q (c :: r))
    (hx : ∃ x, inp[q + (c :: r).length]? = some x ∧ isPlain x = false) :
    Lim aknExec inp (.ref "inline") q (.ok (plainNode q (q + (c :: r).length))) := by
  have hsz : q + (c :: r).length < inp.size := by
    obtain ⟨x, h1, _⟩ := hx
    exact lt_size_of_get h1
  exact lim_ref lk.inline (lim_choice (limC_cons_ok (lim_ref lk.nis
    (lim_rx1_ok (scan_run (c :: r) q (inp.size - q) h hx (by omega)) (by simp)))))

/-- Exactly `k` newlines at `q`: exact, because the star in `eol` has to be shown to stop. -/
def NlRun (inp : Array Char) : Nat → Nat → Prop
  | q, 0 => inp[q]? ≠ some '\n'
  | q, k + 1 => inp[q]? = some '\n' ∧ NlRun inp (q + 1) k

theorem newline_reads {q : Nat} (h : inp[q]? = some '\n') : Reads aknExec inp (.ref "newline") q (q + 1) :=
  reads_ref lk.newline (reads_lit (s := ['\n']) (by simp [litMatch, h]))

theorem nlRun_reps : ∀ (k q : Nat), NlRun inp q k →
    Reps aknExec inp (.ref "empty_line") q (q + k) k ∧ Lim aknExec inp (.ref "empty_line") (q + k) .fail
  | 0, q, h => by
    refine ⟨.nil q, lim_ref lk.empty_line (lim_ref lk.newline (lim_lit_fail ?_))⟩
    cases hc : inp[q]? with
    | none => simp [litMatch, hc]
    | some c => simpa [litMatch, hc] using fun e => h (by rw [hc, e])
  | k + 1, q, h => by
    obtain ⟨hr, hf⟩ := nlRun_reps k (q + 1) h.2
    rw [Nat.add_right_comm] at hr hf
    exact ⟨.cons (reads_ref lk.empty_line (newline_reads h.1)) (Nat.lt_succ_self q) hr, hf⟩

theorem eol_run (q k : Nat) (h : NlRun inp q (k + 1)) : Reads aknExec inp (.ref "eol") q (q + (k + 1)) := by
  obtain ⟨hr, hf⟩ := nlRun_reps k (q + 1) h.2
  rw [Nat.add_right_comm] at hr hf
  exact reads_ref lk.eol (reads_seq (seqTo_cons (newline_reads h.1) (seqTo_cons (reads_star hr hf) seqTo_nil)))

theorem nlRun_of_newline (q : Nat) (h : inp[q]? = some '\n') : ∃ k, NlRun inp q (k + 1) := by
  by_cases h1 : inp[q + 1]? = some '\n'
  · obtain ⟨k, hk⟩ := nlRun_of_newline (q + 1) h1
    exact ⟨k + 1, h, hk⟩
  · exact ⟨0, h, h1⟩
termination_by inp.size - q
decreasing_by have := lt_size_of_get h1; omega

theorem lim_not_dedent {p : Nat} {c0 : Char} (h0 : inp[p]? = some c0) (hc0 : c0 ≠ Char.ofNat 15) :
    Lim aknExec inp (.notP (.ref "dedent")) p (.ok (Tree.leaf p p)) :=
  lim_not_fail (marker_fails lk.dedent h0 hc0)

/-! ## rule `line` -/

def segNodes : Nat → List Seg → List Tree
  | _, [] => []
  | q, .esc _ :: ss => escNode q :: segNodes (q + 2) ss
  | q, .run c r :: ss => plainNode q (q + (c :: r).length) :: segNodes (q + (c :: r).length) ss

theorem lim_line {p : Nat} {c0 : Char} {content te : Tree} (h0 : inp[p]? = some c0) (hc0 : c0 ≠ Char.ofNat 15)
    (hin : Lim aknExec inp (.plus (.ref "inline")) p (.ok content))
    (hte : Lim aknExec inp (.ref "eol") content.stop (.ok te)) :
    Lim aknExec inp (.ref "line") p
      (.ok (.node p te.stop ["Line"] [("content", 1), ("eol", 2)] [Tree.leaf p p, content, te])) :=
  lim_ref lk.line (lim_typed (lim_seq (limS_cons_ok (lim_not_dedent h0 hc0) (limS_cons_ok hin
    (limS_cons_ok hte limS_nil)))))

theorem line_fails_at_newline {q : Nat} (hq : inp[q]? = some '\n') : Lim aknExec inp (.ref "line") q .fail :=
  lim_ref lk.line (lim_typed_fail (lim_seq (limS_cons_ok (lim_not_dedent hq (by decide))
    (limS_cons_fail (lim_plus (limR_stop_fail (inline_fails_at_newline hq) Nat.one_pos))))))

/-- `inline+` from inside the line: `s` is where the repetition started, `acc` what it has read so far. -/
theorem inline_loop : ∀ (ss : List Seg) (q s : Nat) (acc : List Tree), AtSegs inp q ss → 1 ≤ acc.length + ss.length →
    LimR aknExec inp (.ref "inline") s q acc 1
      (.ok (.node s (q + (segsSrc ss).length) [] [] (acc.reverse ++ segNodes q ss)))
  | [], q, s, acc, h, hl => by
      simpa [segNodes, segsSrc] using limR_stop (s := s) (acc := acc) (min := 1) (inline_fails_at_newline h) hl
  | .esc c :: ss, q, s, acc, h, _ => by
      refine limR_step (lim_inline_esc h.1 h.2.1 h.2.2.1) (by simp [escNode, Tree.stop]) ?_
      rw [segsSrc_length_cons]
      simpa [escNode, Tree.stop, segNodes, Seg.src] using inline_loop ss (q + 2) s (escNode q :: acc) h.2.2.2 (by simp; omega)
  | .run c r :: ss, q, s, acc, h, _ => by
      refine limR_step (lim_inline_run h.1 h.2.1) (by simp [plainNode, Tree.stop]) ?_
      rw [segsSrc_length_cons]
      simpa [plainNode, Tree.stop, segNodes, Seg.src] using
        inline_loop ss (q + (c :: r).length) s (plainNode q (q + (c :: r).length) :: acc) h.2.2 (by simp; omega)

theorem mixed_line_run (p : Nat) (ss : List Seg) (hne : ss ≠ []) (h : AtSegs inp p ss)
    (c0 : Char) (h0 : inp[p]? = some c0) (hc0 : c0 ≠ Char.ofNat 15)
    (k : Nat) (hn : NlRun inp (p + (segsSrc ss).length) (k + 1)) :
    ∃ te stop, Lim aknExec inp (.ref "line") p
        (.ok (.node p stop ["Line"] [("content", 1), ("eol", 2)]
          [Tree.leaf p p, .node p (p + (segsSrc ss).length) [] [] (segNodes p ss), te])) ∧
      stop = p + (segsSrc ss).length + (k + 1) := by
  obtain ⟨te, hte, hts⟩ := eol_run (p + (segsSrc ss).length) k hn
  have hplus := lim_plus (inline_loop ss p p [] h (by cases ss with | nil => exact absurd rfl hne | cons _ _ => simp))
  exact ⟨te, te.stop, lim_line h0 hc0 hplus hte, hts⟩

theorem mixed_line (p : Nat) (ss : List Seg) (hne : ss ≠ []) (h : AtSegs inp p ss)
    (c0 : Char) (h0 : inp[p]? = some c0) (hc0 : c0 ≠ Char.ofNat 15) :
    ∃ te stop, Lim aknExec inp (.ref "line") p
        (.ok (.node p stop ["Line"] [("content", 1), ("eol", 2)]
          [Tree.leaf p p, .node p (p + (segsSrc ss).length) [] [] (segNodes p ss), te])) :=
  have ⟨k, hk⟩ := nlRun_of_newline _ (atSegs_end ss p h)
  have ⟨te, stop, hl, _⟩ := mixed_line_run p ss hne h c0 h0 hc0 k hk
  ⟨te, stop, hl⟩

/-- The shape the unparser gives to a paragraph whose text would otherwise start with a keyword (`\PART one`). -/
theorem line_of_esc_plain (inp : Array Char) (p : Nat) (c d : Char) (r : List Char)
    (h0 : inp[p]? = some '\\') (h1 : inp[p+1]? = some c) (hc : c ≠ '\n') (h : AtPlain inp (p + 2) (d :: r)) :
    ∃ n0, ∀ n, n0 ≤ n → ∃ te stop,
      eval aknExec inp n (.ref "line") p =
        .ok (.node p stop ["Line"] [("content", 1), ("eol", 2)]
              [Tree.leaf p p, .node p (p + 2 + (d :: r).length) [] []
                [escNode p, plainNode (p + 2) (p + 2 + (d :: r).length)], te]) := by
  obtain ⟨te, stop, n0, hl⟩ := mixed_line p [.esc c, .run d r] (by simp) ⟨h0, h1, hc, atSegs_of_atPlain h⟩ '\\' h0 (by decide)
  have e : p + (segsSrc [.esc c, .run d r]).length = p + 2 + (d :: r).length := by simp [segsSrc, Seg.src]; omega
  rw [e] at hl
  exact ⟨n0, fun n hn => ⟨te, stop, hl n hn⟩⟩

/-! ## what `Line.to_dict` makes of it -/

theorem textOf_readsAt {t : Tree} {l : List Char} (h : ReadsAt inp t.start l) (hs : t.stop = t.start + l.length) :
    t.textOf inp = String.ofList l := by
  rw [Tree.textOf, hs, extract_readsAt h]

theorem join_segs : ∀ (ss : List Seg), (String.join (ss.map fun s => String.ofList s.txt)).toList = segsTxt ss
  | [] => by simp [segsTxt]
  | s :: ss => by simp [String.join_cons, segsTxt, join_segs ss]

theorem toDict_Line (fuel s e : Nat) (ls : List (String × Nat)) (kids : List Tree) :
    toDict inp (fuel + 1) (.node s e ["Line"] ls kids)
      = .node "content" "p" none (some (inlineMany inp fuel ((Tree.node s e ["Line"] ls kids).child "content").kids))
          none none none none none := rfl

def lineText (inp : Array Char) (t : Tree) : String :=
  if (t.textOf inp).toList.head? = some '\\' then String.ofList ((t.textOf inp).toList.drop 1) else t.textOf inp

/-- `InlineText.many_to_dict` on items none of which is a "dict" node: it never flushes before the end. -/
theorem inlineMany_texts {fuel : Nat} {items : List Tree} (h : ∀ t ∈ items, kindOf t ≠ "dict") :
    inlineMany inp (fuel + 1) items = flushText (items.map (lineText inp)) [] := by
  have key : ∀ (l : List Tree) (acc : List Item) (pend : List String), (∀ t ∈ l, kindOf t ≠ "dict") →
      l.foldl (fun (st : List Item × List String) (item : Tree) =>
        if kindOf item = "dict" then (flushText st.2 st.1 ++ [toDict inp fuel item], [])
        else
          let s := item.textOf inp
          let s := if s.toList.head? = some '\\' then String.ofList (s.toList.drop 1) else s
          (st.1, st.2 ++ [s])) (acc, pend) = (acc, pend ++ l.map (lineText inp)) := by
    intro l
    induction l with
    | nil => intro acc pend _; simp
    | cons t ts ih =>
      intro acc pend h
      simp only [List.foldl_cons, h t (List.mem_cons_self ..), if_false]
      rw [ih _ _ (fun x hx => h x (List.mem_cons_of_mem _ hx))]
      simp [lineText]
  rw [inlineMany]
  simp only [key items [] [] h, List.nil_append]

theorem toDict_text_line {fuel p stop s e : Nat} {a te : Tree} {items : List Tree} (h : ∀ t ∈ items, kindOf t ≠ "dict") :
    toDict inp (fuel + 2) (.node p stop ["Line"] [("content", 1), ("eol", 2)] [a, .node s e [] [] items, te])
      = .node "content" "p" none (some (flushText (items.map (lineText inp)) [])) none none none none none := by
  have hcn : (Tree.node p stop ["Line"] [("content", 1), ("eol", 2)] [a, .node s e [] [] items, te]).child "content"
      = .node s e [] [] items := by
    simp [Tree.child, Tree.child?, Tree.labels, Tree.kids]
  rw [toDict_Line, hcn, Tree.kids, inlineMany_texts h]

theorem lineText_escNode {q : Nat} {c : Char} (h0 : inp[q]? = some '\\') (h1 : inp[q + 1]? = some c) :
    lineText inp (escNode q) = String.ofList [c] := by
  have : (escNode q).textOf inp = String.ofList ['\\', c] := textOf_readsAt (readsAt_pair h0 h1) rfl
  simp [lineText, this]

theorem lineText_plainNode {q : Nat} {c : Char} {r : List Char} (h : AtRun inp q (c :: r)) :
    lineText inp (plainNode q (q + (c :: r).length)) = String.ofList (c :: r) := by
  have htx : (plainNode q (q + (c :: r).length)).textOf inp = String.ofList (c :: r) := textOf_readsAt (atRun_iff.1 h).1 rfl
  have hd : ¬ (some c = some '\\') := by simpa using plain_not_backslash c h.2.1
  rw [lineText, htx]
  simp [hd]

theorem segNodes_kind : ∀ (ss : List Seg) (q : Nat), ∀ t ∈ segNodes q ss, kindOf t ≠ "dict"
  | [], _, _, h => by simp [segNodes] at h
  | .esc _ :: ss, q, t, h => by
      rcases List.mem_cons.1 h with rfl | h
      · show ¬ ("none" = "dict"); decide
      · exact segNodes_kind ss _ t h
  | .run c r :: ss, q, t, h => by
      rcases List.mem_cons.1 h with rfl | h
      · show ¬ ("none" = "dict"); decide
      · exact segNodes_kind ss _ t h

theorem segNodes_texts : ∀ (ss : List Seg) (q : Nat), AtSegs inp q ss →
    (segNodes q ss).map (lineText inp) = ss.map fun s => String.ofList s.txt
  | [], _, _ => rfl
  | .esc c :: ss, q, h => by
      simp only [segNodes, List.map_cons, lineText_escNode h.1 h.2.1, segNodes_texts ss (q + 2) h.2.2.2, Seg.txt]
  | .run c r :: ss, q, h => by
      simp only [segNodes, List.map_cons, lineText_plainNode h.1, segNodes_texts ss _ h.2.2, Seg.txt]

theorem toDict_mixed_line (fuel p stop : Nat) (te : Tree) (ss : List Seg) (hne : ss ≠ []) (h : AtSegs inp p ss) :
    toDict inp (fuel + 2) (.node p stop ["Line"] [("content", 1), ("eol", 2)]
        [Tree.leaf p p, .node p (p + (segsSrc ss).length) [] [] (segNodes p ss), te])
      = .node "content" "p" none (some [Item.text (String.ofList (segsTxt ss))]) none none none none none := by
  rw [toDict_text_line (segNodes_kind ss p), segNodes_texts ss p h, ← join_segs, String.ofList_toList]
  cases ss with
  | nil => exact absurd rfl hne
  | cons s rest => simp [flushText]

/-- `c` may be a newline here, which `AtSegs` excludes: an instance of `toDict_text_line`, not of `toDict_mixed_line`. -/
theorem toDict_esc_plain_line (inp : Array Char) (fuel p stop : Nat) (te : Tree) (c d : Char) (r : List Char)
    (h0 : inp[p]? = some '\\') (h1 : inp[p+1]? = some c) (h : AtPlain inp (p + 2) (d :: r)) :
    toDict inp (fuel + 2) (.node p stop ["Line"] [("content", 1), ("eol", 2)]
        [Tree.leaf p p, .node p (p + 2 + (d :: r).length) [] []
          [escNode p, plainNode (p + 2) (p + 2 + (d :: r).length)], te])
      = .node "content" "p" none (some [Item.text (String.ofList (c :: d :: r))]) none none none none none := by
  have h' := (atPlain_iff (d :: r) (p + 2)).1 h
  have hk : ∀ t ∈ [escNode p, plainNode (p + 2) (p + 2 + (d :: r).length)], kindOf t ≠ "dict" :=
    segNodes_kind [.esc c, .run d r] p
  rw [toDict_text_line hk]
  rw [List.map_cons, List.map_cons, List.map_nil, lineText_escNode h0 h1,
    lineText_plainNode h'.1]
  simp [flushText, String.join_cons]

end Bluebell
