import Bluebell.Peg.First
import Bluebell.Lemmas.PegTerm
/-!
The first-character analysis is sound (`Runs.mayStart`: induction over the depth of the analysis, by cases on the success).
On a certified grammar a rule that cannot start with the next character *fails* (it cannot succeed, and by termination it
answers), so in a choice the leading rule references that cannot start may be dropped: `firstCandidate` names the first one
that is left, `skipAlts` is the choice without them.
-/
namespace Bluebell

variable {g : Grammar} {inp : Array Char}

theorem Runs.stop_of_neverConsumes {e : PExp} {p : Nat} {t : Tree} (h : Runs g inp (.exp e p) t)
    (hn : neverConsumes e = true) : t.stop = p := by
  cases h with
  | notP | andP => rfl
  | @lit s _ =>
    cases s with
    | nil => rfl
    | cons => cases hn
  | _ => cases hn

def Cfg.mayStart (g : Grammar) (d : Nat) (c : Option Char) : Cfg → Bool
  | .exp e _ => Bluebell.mayStart g d e c
  | .seq es .. => mayStartS g d es c
  | .alt es _ => mayStartC g d es c
  | .rep .. => true

theorem Runs.mayStart : ∀ d {c t}, Runs g inp c t → c.mayStart g d inp[c.pos]? = true
  | 0, c, _, _ => by cases c <;> rfl
  | d+1, _, _, h => by
    have ih := @Runs.mayStart d
    cases h with
    | @lit s p hm =>
      cases s with
      | nil => rfl
      | cons a s => exact (Bool.and_eq_true_iff.1 hm).1
    | @cls neg cs p c hc hm =>
      show Bluebell.mayStart g (d+1) (.cls neg cs) inp[p]? = true
      exact hc ▸ hm
    | @rx1 neg cs p q hq hlt =>
      obtain ⟨c, hc, hm⟩ := (scanCls_spec inp neg cs _ p).2.2.1 p (Nat.le_refl _) (hq ▸ hlt)
      show Bluebell.mayStart g (d+1) (.rx1 neg cs) inp[p]? = true
      exact hc ▸ hm
    | @ref A e p t hl h =>
      show (match g.lookup A with | some e' => Bluebell.mayStart g d e' inp[p]? | none => false) = true
      exact hl ▸ ih h
    | seq h | choice h | andP h | typed h => exact ih h
    | head h => exact Bool.or_eq_true_iff.2 (.inl (ih h))
    | tail h => exact Bool.or_eq_true_iff.2 (.inr (ih h))
    | opt | optNone | notP | star | nil | stop | step => rfl
    | @cons _ e _ _ _ _ _ _ _ _ h₁ h₂ =>
      refine Bool.and_eq_true_iff.2 ⟨ih h₁, Bool.or_eq_true_iff.2 ?_⟩
      by_cases hn : neverConsumes e = true
      -- an element that never consumes leaves the rest of the sequence at the same character
      · exact .inr (h₁.stop_of_neverConsumes hn ▸ ih h₂)
      · exact .inl (by simpa using hn)
    | plus h =>
      -- the first round of the loop must succeed
      cases h with
      | stop hm => cases hm
      | step h₁ => exact ih h₁

theorem mayStart_sound (g : Grammar) (inp : Array Char) : ∀ d,
    (∀ n e p t, eval g inp n e p = .ok t → mayStart g d e inp[p]? = true) ∧
    (∀ n es s p i ls acc t, evalSeq g inp n es s p i ls acc = .ok t → mayStartS g d es inp[p]? = true) ∧
    (∀ n es p t, evalChoice g inp n es p = .ok t → mayStartC g d es inp[p]? = true) :=
  fun d => ⟨fun n e p t h => (runs_of_run n (.exp e p) t h).mayStart d,
    fun n es s p i ls acc t h => (runs_of_run n (.seq es s p i ls acc) t h).mayStart d,
    fun n es p t h => (runs_of_run n (.alt es p) t h).mayStart d⟩

theorem lim_fail_of_lim_and_cannot_start {e : PExp} {p : Nat} {r : Res} (d : Nat) (h : Lim g inp e p r)
    (hm : mayStart g d e inp[p]? = false) (hd : r.done) : r = .fail := by
  cases r with
  | fail => rfl
  | oof => exact absurd hd Res.not_done_oof
  | ok t => cases ((Tends.runs (c := .exp e p) h).mayStart d).symm.trans hm

theorem lim_fail_of_cannot_start {N : List String} {R : List (String × Nat)} {top : Nat}
    (hw : wfG g N R top = true) (d : Nat) (A : String) (p : Nat)
    (h : mayStart g d (.ref A) inp[p]? = false) : Lim g inp (.ref A) p .fail := by
  obtain ⟨n, r, hd, hr⟩ := peg_result_defined (inp := inp) hw A p
  exact lim_fail_of_lim_and_cannot_start d ⟨n, hr⟩ h hd ▸ ⟨n, hr⟩

def firstCandidate (g : Grammar) (d : Nat) (c : Option Char) : PExps → Option String
  | .nil => none
  | .cons (.ref A) r =>
    if mayStart g d (.ref A) c then some A
    else if (g.lookup A).isSome then firstCandidate g d c r else none
  | .cons _ _ => none

theorem limC_first_candidate {N : List String} {R : List (String × Nat)} {top : Nat}
    (hw : wfG g N R top = true) (d : Nat) (p : Nat) (A : String) (t : Tree)
    (hA : Lim g inp (.ref A) p (.ok t)) :
    ∀ es, firstCandidate g d inp[p]? es = some A → LimC g inp es p (.ok t)
  | .nil, h => by simp [firstCandidate] at h
  | .cons e r, h => by
    cases e with
    | ref B =>
      simp only [firstCandidate] at h
      split at h
      · cases h; exact limC_cons_ok hA
      · rename_i hm
        split at h
        · exact limC_cons_fail (lim_fail_of_cannot_start hw d B p (by simpa using hm))
            (limC_first_candidate hw d p A t hA r h)
        · cases h
    | _ => simp [firstCandidate] at h

theorem lim_rule_first_candidate {N : List String} {R : List (String × Nat)} {top : Nat}
    (hw : wfG g N R top = true) (d : Nat) (p : Nat) (rule A : String) {es : PExps} {t : Tree}
    (hl : g.lookup rule = some (.choice es)) (hc : firstCandidate g d inp[p]? es = some A)
    (hA : Lim g inp (.ref A) p (.ok t)) : Lim g inp (.ref rule) p (.ok t) :=
  lim_ref hl (lim_choice (limC_first_candidate hw d p A t hA es hc))

def skipAlts (g : Grammar) (d : Nat) (c : Option Char) : PExps → PExps
  | .nil => .nil
  | .cons e r => match e with
    | .ref A => if mayStart g d (.ref A) c then .cons e r else skipAlts g d c r
    | _ => .cons e r

theorem limC_skipAlts {N : List String} {R : List (String × Nat)} {top : Nat}
    (hw : wfG g N R top = true) (d : Nat) (p : Nat) {r : Res} :
    ∀ es, LimC g inp (skipAlts g d inp[p]? es) p r → LimC g inp es p r
  | .nil, h => h
  | .cons e rest, h => by
    cases e with
    | ref A =>
      simp only [skipAlts] at h
      split at h
      · exact h
      · rename_i hc
        exact limC_cons_fail (lim_fail_of_cannot_start hw d A p (by simpa using hc)) (limC_skipAlts hw d p rest h)
    | _ => exact h

end Bluebell
