import Bluebell.Lemmas.PreParse
/-! Empty lines between lines: the indentation pass is compositional over the list of lines, and an empty line
emits exactly one empty line and leaves the indentation stack alone. -/
namespace Bluebell

theorem passT_append (a b : List (List Char)) (st : List Int) :
    passT (a ++ b) st = ((passT a st).1 ++ (passT b (passT a st).2).1, (passT b (passT a st).2).2) := by
  induction a generalizing st with
  | nil => rfl
  | cons l ls ih =>
    simp only [List.cons_append, passT]
    by_cases h : l = [] <;> simp [h, ih]

def visible (ts : List Tok) : List Tok := ts.filter (· ≠ .line [])

theorem visible_append (a b : List Tok) : visible (a ++ b) = visible a ++ visible b := by
  simp [visible]

theorem passT_emptyLines (k : Nat) (st : List Int) :
    passT (List.replicate k []) st = (List.replicate k (.line []), st) := by
  induction k with
  | zero => rfl
  | succ k ih => simp [List.replicate_succ, passT, ih]

theorem visible_emptyLines (k : Nat) : visible (List.replicate k (.line [])) = [] := by
  simp [visible]

theorem splitLines_replicate_nl (k : Nat) (b : List Char) :
    splitLines (List.replicate k '\n' ++ b) = List.replicate k [] ++ splitLines b := by
  induction k with
  | zero => simp
  | succ k ih => simp only [List.replicate_succ, List.cons_append, splitLines_cons_nl, ih]

end Bluebell
