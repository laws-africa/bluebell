import Bluebell.Lemmas.PegMeta
/-!
`Lim g inp e p r`: for all sufficiently large fuel, evaluating `e` at `p` gives `r`; by `eval_mono` this is *the* result of
the expression.  `Lim`, `LimC`, `LimS`, `LimR` are, by unfolding, `Tends (run g inp · c)` for the four kinds of configuration
`c`; proofs pass from one form to the other without a lemma.  `Tends.step`/`Tends.step₂` carry the one fuel argument, so each
of the usual PEG big-step rules is a line, and with them a proof about the grammar can ignore fuel.
-/
namespace Bluebell

def Tends (F : Nat → Res) (r : Res) : Prop := ∃ n0, ∀ n, n0 ≤ n → F n = r

def Lim (g : Grammar) (inp : Array Char) (e : PExp) (p : Nat) (r : Res) : Prop :=
  ∃ n0, ∀ n, n0 ≤ n → eval g inp n e p = r

def LimC (g : Grammar) (inp : Array Char) (es : PExps) (p : Nat) (r : Res) : Prop :=
  ∃ n0, ∀ n, n0 ≤ n → evalChoice g inp n es p = r

def LimS (g : Grammar) (inp : Array Char) (es : PItems) (s p i : Nat) (ls : List (String × Nat)) (acc : List Tree) (r : Res) : Prop :=
  ∃ n0, ∀ n, n0 ≤ n → evalSeq g inp n es s p i ls acc = r

def LimR (g : Grammar) (inp : Array Char) (e : PExp) (s p : Nat) (acc : List Tree) (min : Nat) (r : Res) : Prop :=
  ∃ n0, ∀ n, n0 ≤ n → evalRep g inp n e s p acc min = r

theorem Tends.step₂ {F₁ F₂ F : Nat → Res} {r₁ r₂ r : Res} (h₁ : Tends F₁ r₁) (h₂ : Tends F₂ r₂)
    (hF : ∀ n, F₁ n = r₁ → F₂ n = r₂ → F (n+1) = r) : Tends F r := by
  obtain ⟨n₁, h₁⟩ := h₁
  obtain ⟨n₂, h₂⟩ := h₂
  refine ⟨max n₁ n₂ + 1, fun n hn => ?_⟩
  cases n with
  | zero => cases hn
  | succ m =>
    have hm := Nat.le_of_succ_le_succ hn
    exact hF m (h₁ m (Nat.le_trans (Nat.le_max_left ..) hm)) (h₂ m (Nat.le_trans (Nat.le_max_right ..) hm))

theorem Tends.step {F₁ F : Nat → Res} {r₁ r : Res} (h₁ : Tends F₁ r₁)
    (hF : ∀ n, F₁ n = r₁ → F (n+1) = r) : Tends F r :=
  h₁.step₂ h₁ fun n h _ => hF n h

theorem tends_const {r : Res} : Tends (fun _ => r) r := ⟨0, fun _ _ => rfl⟩

theorem Tends.of_succ {F : Nat → Res} {r : Res} (hF : ∀ n, F (n+1) = r) : Tends F r :=
  (tends_const (r := r)).step fun n _ => hF n

theorem Tends.unique {F : Nat → Res} {r r' : Res} (h : Tends F r) (h' : Tends F r') : r = r' := by
  obtain ⟨n0, h0⟩ := h
  obtain ⟨n1, h1⟩ := h'
  rw [← h0 (max n0 n1) (Nat.le_max_left ..), ← h1 (max n0 n1) (Nat.le_max_right ..)]

variable {g : Grammar} {inp : Array Char}

theorem tends_of_run {n : Nat} {c : Cfg} {r : Res} (h : run g inp n c = r) (hd : r.done) :
    Tends (run g inp · c) r :=
  ⟨n, fun _ hm => (run_mono hm c (h ▸ hd)).trans h⟩

theorem Tends.runs {c : Cfg} {t : Tree} (h : Tends (run g inp · c) (.ok t)) : Runs g inp c t :=
  let ⟨n, hn⟩ := h; runs_of_run n c t (hn n (Nat.le_refl n))

theorem lim_of_eval {n : Nat} {e : PExp} {p : Nat} {r : Res} (h : eval g inp n e p = r) (hd : r.done) :
    Lim g inp e p r :=
  tends_of_run (c := .exp e p) h hd

theorem Lim.eval_eq {n : Nat} {e : PExp} {p : Nat} {r : Res} (h : Lim g inp e p r)
    (hd : (eval g inp n e p).done) : eval g inp n e p = r :=
  Tends.unique (lim_of_eval rfl hd) h

theorem lim_unique {e : PExp} {p : Nat} {r r' : Res} (h : Lim g inp e p r) (h' : Lim g inp e p r') : r = r' :=
  Tends.unique h h'

section rules
variable {A : String} {e : PExp} {es : PExps} {is : PItems} {p s i min : Nat} {r : Res} {t : Tree}
  {ty : String} {names : List String} {ls : List (String × Nat)} {acc : List Tree}

theorem lim_ref (hl : g.lookup A = some e) (h : Lim g inp e p r) : Lim g inp (.ref A) p r :=
  Tends.step h fun n h => by simp only [eval, hl, h]

theorem lim_ref_undefined {A : String} {p : Nat} (hl : g.lookup A = none) : Lim g inp (.ref A) p .fail :=
  Tends.of_succ fun n => by simp only [eval, hl]

theorem lim_lit_fail {s : List Char} (h : litMatch inp p s = false) : Lim g inp (.lit s) p .fail :=
  Tends.of_succ fun n => by simp [eval, h]

theorem lim_lit_ok {s : List Char} (h : litMatch inp p s = true) :
    Lim g inp (.lit s) p (.ok (Tree.leaf p (p + s.length))) :=
  Tends.of_succ fun n => by simp [eval, h]

theorem lim_cls_fail {neg : Bool} {cs : List Char} {c : Char} (h : inp[p]? = some c)
    (hm : clsMatch neg cs c = false) : Lim g inp (.cls neg cs) p .fail :=
  Tends.of_succ fun n => by simp [eval_cls, h, hm]

theorem lim_rx1_ok {neg : Bool} {cs : List Char} {q : Nat} (h : scanCls inp neg cs (inp.size - p) p = q)
    (hq : p < q) : Lim g inp (.rx1 neg cs) p (.ok (.node p q [] [] [.leaf p q])) :=
  Tends.of_succ fun n => by simp [eval, h, hq]

theorem lim_rx1_fail {neg : Bool} {cs : List Char} (h : scanCls inp neg cs (inp.size - p) p = p) :
    Lim g inp (.rx1 neg cs) p .fail :=
  Tends.of_succ fun n => by simp [eval, h]

theorem lim_choice (h : LimC g inp es p r) : Lim g inp (.choice es) p r :=
  Tends.step h fun n h => by simp only [eval, h]

theorem lim_seq (h : LimS g inp is p p 0 [] [] r) : Lim g inp (.seq is) p r :=
  Tends.step h fun n h => by simp only [eval, h]

theorem lim_star (h : LimR g inp e p p [] 0 r) : Lim g inp (.star e) p r :=
  Tends.step h fun n h => by simp only [eval, h]

theorem lim_plus (h : LimR g inp e p p [] 1 r) : Lim g inp (.plus e) p r :=
  Tends.step h fun n h => by simp only [eval, h]

theorem lim_opt_ok (h : Lim g inp e p (.ok t)) : Lim g inp (.opt e) p (.ok t) :=
  Tends.step h fun n h => by rw [eval_opt, h]; rfl

theorem lim_opt_fail (h : Lim g inp e p .fail) : Lim g inp (.opt e) p (.ok (Tree.leaf p p)) :=
  Tends.step h fun n h => by rw [eval_opt, h]; rfl

theorem lim_not_ok (h : Lim g inp e p (.ok t)) : Lim g inp (.notP e) p .fail :=
  Tends.step h fun n h => by rw [eval_notP, h]; rfl

theorem lim_not_fail (h : Lim g inp e p .fail) : Lim g inp (.notP e) p (.ok (Tree.leaf p p)) :=
  Tends.step h fun n h => by rw [eval_notP, h]; rfl

theorem lim_typed (h : Lim g inp e p (.ok t)) : Lim g inp (.typed ty e) p (.ok (t.addType ty)) :=
  Tends.step h fun n h => by rw [eval_typed, h]; rfl

theorem lim_typed_fail (h : Lim g inp e p .fail) : Lim g inp (.typed ty e) p .fail :=
  Tends.step h fun n h => by rw [eval_typed, h]; rfl

theorem limC_nil : LimC g inp .nil p .fail :=
  Tends.of_succ fun n => by simp only [evalChoice]

theorem limC_cons_ok (h : Lim g inp e p (.ok t)) : LimC g inp (.cons e es) p (.ok t) :=
  Tends.step h fun n h => by rw [evalChoice_cons, h]; rfl

theorem limC_cons_fail (h : Lim g inp e p .fail) (hr : LimC g inp es p r) : LimC g inp (.cons e es) p r :=
  Tends.step₂ h hr fun n h hr => by rw [evalChoice_cons, h]; exact hr

theorem limS_nil : LimS g inp .nil s p i ls acc (.ok (.node s p [] ls acc.reverse)) :=
  Tends.of_succ fun n => by simp only [evalSeq]

theorem limS_cons_ok (h : Lim g inp e p (.ok t))
    (hr : LimS g inp is s t.stop (i + 1) (addLabels ls names i) (t :: acc) r) :
    LimS g inp (.cons names e is) s p i ls acc r :=
  Tends.step₂ h hr fun n h hr => by rw [evalSeq_cons, h]; exact hr

theorem limS_cons_fail (h : Lim g inp e p .fail) : LimS g inp (.cons names e is) s p i ls acc .fail :=
  Tends.step h fun n h => by rw [evalSeq_cons, h]; rfl

theorem limR_stop (h : Lim g inp e p .fail) (hm : min ≤ acc.length) :
    LimR g inp e s p acc min (.ok (.node s p [] [] acc.reverse)) :=
  Tends.step h fun n h => by rw [evalRep_succ, h]; exact if_pos hm

theorem limR_stop_fail (h : Lim g inp e p .fail) (hm : acc.length < min) : LimR g inp e s p acc min .fail :=
  Tends.step h fun n h => by rw [evalRep_succ, h]; exact if_neg (Nat.not_le.2 hm)

theorem limR_step (h : Lim g inp e p (.ok t)) (hp : p < t.stop) (hr : LimR g inp e s t.stop (t :: acc) min r) :
    LimR g inp e s p acc min r :=
  Tends.step₂ h hr fun n h hr => by rw [evalRep_succ, h]; exact (if_neg (Nat.not_le.2 hp)).trans hr
end rules

end Bluebell
