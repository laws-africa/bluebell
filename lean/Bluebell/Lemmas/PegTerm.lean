import Bluebell.Peg.WF
import Bluebell.Lemmas.PegLim
/-!
If `wfG g N R top = true` then every rule, at every offset of every text, has a result (`peg_result_defined`): the
recursive-descent parser generated from the grammar cannot loop or recurse forever.  The proof speaks of `Halts` (a
configuration has a limit that is an answer) and is written with the big-step rules; `Halts.bind` is the one place where two
fuels are combined.  Induction on the remaining input (`termAll`), then on the rank of the rule (`ref_halts`), then on the
expression (`termE`, `termS`, `termC`).  On the way: the nullable analysis is sound (`Runs.nullable`).
-/
namespace Bluebell

variable {g : Grammar} {N : List String} {R : List (String × Nat)} {top : Nat} {inp : Array Char}

theorem lookup_mem {l : Grammar} {A : String} {e : PExp} (hl : l.lookup A = some e) : (A, e) ∈ l := by
  obtain ⟨l₁, l₂, rfl, -⟩ := List.lookup_eq_some_iff.1 hl
  exact List.mem_append_right _ List.mem_cons_self

theorem closedN_lookup (hc : closedN g N = true) {A : String} {e : PExp} (hl : g.lookup A = some e)
    (hn : nullE N e = true) : N.contains A = true := by
  simpa [hn] using List.all_eq_true.1 hc (A, e) (lookup_mem hl)

theorem closedN_of_wfG (hw : wfG g N R top = true) : closedN g N = true :=
  (Bool.and_eq_true .. ▸ hw : _ ∧ _).1

theorem wfG_lookup (hw : wfG g N R top = true) {A : String} {e : PExp} (hl : g.lookup A = some e) :
    rkOf R top A < top ∧ wfE N R top (rkOf R top A) e = true := by
  unfold wfG at hw
  rw [Bool.and_eq_true, List.all_eq_true] at hw
  have := hw.2 (A, e) (lookup_mem hl)
  simpa using this

def Cfg.nullable (N : List String) : Cfg → Prop
  | .exp e _ => nullE N e = true
  | .seq es .. => nullS N es = true
  | .alt es _ => nullC N es = true
  | .rep _ _ _ acc k => k ≤ acc.length

theorem Runs.nullable (hc : closedN g N = true) {c : Cfg} {t : Tree} (h : Runs g inp c t) :
    t.stop ≤ c.pos → c.nullable N := by
  induction h with
  | @lit s p =>
    intro hs
    have : s = [] := List.length_eq_zero_iff.1 (by simp only [Tree.stop_leaf, Cfg.pos] at hs; omega)
    subst this; rfl
  | cls => exact fun hs => absurd hs (Nat.not_succ_le_self _)
  | rx1 _ hlt => exact fun hs => absurd hs (Nat.not_le.2 hlt)
  | ref hl _ ih => exact fun hs => closedN_lookup hc hl (ih hs)
  | seq _ ih | choice _ ih => exact ih
  | star | opt | optNone | notP | andP | nil => exact fun _ => rfl
  | plus _ ih => exact fun hs => nomatch (ih hs : 1 ≤ 0)
  | typed _ ih => exact fun hs => ih (by simpa [Cfg.pos] using hs)
  | cons h₁ h₂ ih₁ ih₂ =>
    -- the whole did not move, so neither part did
    exact fun hs => Bool.and_eq_true_iff.2 ⟨ih₁ (Nat.le_trans h₂.span.2.1 hs), ih₂ (Nat.le_trans hs h₁.span.2.1)⟩
  | head _ ih => exact fun hs => Bool.or_eq_true_iff.2 (.inl (ih hs))
  | tail _ ih => exact fun hs => Bool.or_eq_true_iff.2 (.inr (ih hs))
  | stop hm => exact fun _ => hm
  | step h₁ hlt h₂ => exact fun hs => absurd (Nat.le_trans h₂.span.2.1 hs) (Nat.not_le.2 hlt)

theorem run_null (hc : closedN g N = true) (n : Nat) (c : Cfg) (t : Tree) (h : run g inp n c = .ok t) :
    t.stop ≤ c.pos → c.nullable N :=
  (runs_of_run n c t h).nullable hc

theorem null_sound (g : Grammar) (N : List String) (hc : closedN g N = true) (inp : Array Char) :
    ∀ n,
    (∀ e p t, p ≤ inp.size → eval g inp n e p = .ok t → t.stop ≤ p → nullE N e = true) ∧
    (∀ es s p i ls acc t, p ≤ inp.size → evalSeq g inp n es s p i ls acc = .ok t → t.stop ≤ p →
        nullS N es = true) ∧
    (∀ es p t, p ≤ inp.size → evalChoice g inp n es p = .ok t → t.stop ≤ p → nullC N es = true) ∧
    (∀ e s p acc k t, p ≤ inp.size → evalRep g inp n e s p acc k = .ok t → t.stop ≤ p →
        k ≤ acc.length) :=
  -- the bounds `p ≤ inp.size` are not needed
  fun n => ⟨fun e p t _ => run_null hc n (.exp e p) t, fun es s p i ls acc t _ => run_null hc n (.seq es s p i ls acc) t,
    fun es p t _ => run_null hc n (.alt es p) t, fun e s p acc k t _ => run_null hc n (.rep e s p acc k) t⟩

variable (g N R top inp)

mutual
theorem wfE_mono {k k' : Nat} (h : k ≤ k') : ∀ e, wfE N R top k e = true → wfE N R top k' e = true
  | .lit _, _ | .cls _ _, _ | .rx1 _ _, _ => rfl
  | .ref _, hw => decide_eq_true (Nat.lt_of_lt_of_le (of_decide_eq_true hw) h)
  | .seq es, hw => wfS_mono h es hw
  | .choice es, hw => wfC_mono h es hw
  | .opt e, hw | .notP e, hw | .andP e, hw | .typed _ e, hw => wfE_mono h e hw
  | .star e, hw | .plus e, hw =>
      have ⟨he, hn⟩ := Bool.and_eq_true_iff.1 hw
      Bool.and_eq_true_iff.2 ⟨wfE_mono h e he, hn⟩
theorem wfS_mono {k k' : Nat} (h : k ≤ k') : ∀ es, wfS N R top k es = true → wfS N R top k' es = true
  | .nil, _ => rfl
  | .cons _ e r, hw => by
      have ⟨he, hr⟩ := Bool.and_eq_true_iff.1 hw
      refine Bool.and_eq_true_iff.2 ⟨wfE_mono h e he, ?_⟩
      -- after an element that is not nullable the rest is checked at rank `top` either way
      by_cases hn : nullE N e = true
      · rw [if_pos hn] at hr ⊢; exact wfS_mono h r hr
      · rw [if_neg hn] at hr ⊢; exact hr
theorem wfC_mono {k k' : Nat} (h : k ≤ k') : ∀ es, wfC N R top k es = true → wfC N R top k' es = true
  | .nil, _ => rfl
  | .cons e r, hw =>
      have ⟨he, hr⟩ := Bool.and_eq_true_iff.1 hw
      Bool.and_eq_true_iff.2 ⟨wfE_mono h e he, wfC_mono h r hr⟩
end

def Halts (c : Cfg) : Prop := ∃ r, r.done ∧ Tends (run g inp · c) r

/-- What may be left to run from a later offset `p`: the rest of a sequence (its items are checked at rank `top`, since
something has been consumed) and a loop whose body is not nullable. -/
structure TermAll (p : Nat) : Prop where
  s : ∀ es, wfS N R top top es = true → ∀ s i ls acc, Halts g inp (.seq es s p i ls acc)
  r : ∀ e, wfE N R top top e = true → nullE N e = false → ∀ s acc m, Halts g inp (.rep e s p acc m)

variable {g N R top inp}

theorem halts_of_done {n : Nat} {c : Cfg} (hd : (run g inp n c).done) : Halts g inp c :=
  ⟨_, hd, tends_of_run rfl hd⟩

theorem Halts.tail {c c' : Cfg} (h : Halts g inp c')
    (hc : ∀ {r}, Tends (run g inp · c') r → Tends (run g inp · c) r) : Halts g inp c :=
  let ⟨r, hd, hr⟩ := h; ⟨r, hd, hc hr⟩

theorem Halts.bind {c c₁ : Cfg} {k : Nat → Tree → Res} {f : Nat → Res} (h₁ : Halts g inp c₁)
    (hc : ∀ n, run g inp (n+1) c = (run g inp n c₁).bind (k n) (f n))
    (hk : ∀ t, Tends (run g inp · c₁) (.ok t) → ∃ r, r.done ∧ Tends (k · t) r)
    (hf : ∃ r, r.done ∧ Tends f r) : Halts g inp c := by
  obtain ⟨r₁, hd₁, h₁⟩ := h₁
  obtain ⟨r, hd, hr⟩ : ∃ r, r.done ∧ Tends (fun n => r₁.bind (k n) (f n)) r := by
    cases r₁ with
    | oof => exact absurd hd₁ Res.not_done_oof
    | fail => exact hf
    | ok t => exact hk t h₁
  exact ⟨r, hd, h₁.step₂ hr fun n a b => by rw [hc, a]; exact b⟩

theorem Halts.wrap {e e' : PExp} {p : Nat} {k : Tree → Res} {f : Res} (h₁ : Halts g inp (.exp e p))
    (hc : ∀ n, eval g inp (n+1) e' p = (eval g inp n e p).bind k f)
    (hk : ∀ t, (k t).done) (hf : f.done) : Halts g inp (.exp e' p) :=
  h₁.bind hc (fun t _ => ⟨_, hk t, tends_const⟩) ⟨_, hf, tends_const⟩

theorem wrap_step {p : Nat} {e : PExp} (he : ∃ n, (eval g inp n e p).done) (f : PExp → PExp)
    (hf : ∀ n, (eval g inp n e p).done → (eval g inp (n+1) (f e) p).done) :
    ∃ n, (eval g inp n (f e) p).done := by
  obtain ⟨n1, h1⟩ := he
  exact ⟨n1 + 1, hf n1 h1⟩

/-- What the structural induction (`termE`, `termS`, `termC`) assumes, at offset `p` and rank bound `k`. -/
structure Inner (g : Grammar) (N : List String) (R : List (String × Nat)) (top : Nat) (inp : Array Char)
    (p k : Nat) : Prop where
  wf : wfG g N R top = true
  later : ∀ p', p < p' → p' ≤ inp.size → TermAll g N R top inp p'
  rank : k ≤ top
  lower : ∀ A, rkOf R top A < k → Halts g inp (.exp (.ref A) p)

variable {p k : Nat}

theorem rep_step (ih : Inner g N R top inp p k) {e : PExp} (he : Halts g inp (.exp e p))
    (hwf : wfE N R top top e = true) (hn : nullE N e = false) (s : Nat) (acc : List Tree) (m : Nat) :
    Halts g inp (.rep e s p acc m) := by
  refine he.bind (evalRep_succ g inp · e s p acc m) (fun t ht => ?_) ⟨_, by split <;> trivial, tends_const⟩
  -- a success of a non-nullable body moves forward, where everything halts already
  have hlt : ¬ t.stop ≤ p := fun hcs => by
    have : nullE N e = true := ht.runs.nullable (closedN_of_wfG ih.wf) hcs
    rw [hn] at this; cases this
  simp only [if_neg hlt]
  exact (ih.later t.stop (Nat.not_le.1 hlt) (ht.runs.stop_le hlt)).r e hwf hn s (t :: acc) m

mutual
theorem termE (ih : Inner g N R top inp p k) : ∀ e, wfE N R top k e = true → Halts g inp (.exp e p)
  | .lit s, _ => halts_of_done (n := 1) (by simp only [run, eval]; split <;> trivial)
  | .cls neg cs, _ => halts_of_done (n := 1) (by simp only [run, eval]; split <;> (try split) <;> trivial)
  | .rx1 neg cs, _ => halts_of_done (n := 1) (by simp only [run, eval]; split <;> trivial)
  | .ref A, h => ih.lower A (of_decide_eq_true h)
  | .seq es, h => (termS ih es h p 0 [] []).tail lim_seq
  | .choice es, h => (termC ih es h).tail lim_choice
  | .opt e, h => (termE ih e h).wrap (eval_opt g inp · e p) (fun _ => trivial) trivial
  | .notP e, h => (termE ih e h).wrap (eval_notP g inp · e p) (fun _ => trivial) trivial
  | .andP e, h => (termE ih e h).wrap (eval_andP g inp · e p) (fun _ => trivial) trivial
  | .typed ty e, h => (termE ih e h).wrap (eval_typed g inp · ty e p) (fun _ => trivial) trivial
  | .star e, h =>
      have ⟨he, hn⟩ := Bool.and_eq_true_iff.1 h
      (rep_step ih (termE ih e he) (wfE_mono N R top ih.rank e he) ((Bool.not_eq_true' _).mp hn) p [] 0).tail lim_star
  | .plus e, h =>
      have ⟨he, hn⟩ := Bool.and_eq_true_iff.1 h
      (rep_step ih (termE ih e he) (wfE_mono N R top ih.rank e he) ((Bool.not_eq_true' _).mp hn) p [] 1).tail lim_plus
theorem termS (ih : Inner g N R top inp p k) :
    ∀ es, wfS N R top k es = true → ∀ s i ls acc, Halts g inp (.seq es s p i ls acc)
  | .nil, _ => fun s i ls acc => halts_of_done (n := 1) (by simp only [run, evalSeq]; trivial)
  | .cons names e r, h => by
      obtain ⟨he, hr⟩ := Bool.and_eq_true_iff.1 h
      intro s i ls acc
      refine (termE ih e he).bind (evalSeq_cons g inp · names e r s p i ls acc)
        (fun t ht => ?_) ⟨.fail, trivial, tends_const⟩
      -- either the element consumed nothing (then it is nullable and the rest is checked at rank `k`),
      -- or the rest starts further on, where everything halts already
      by_cases hcs : t.stop ≤ p
      · have hnull : nullE N e = true := ht.runs.nullable (closedN_of_wfG ih.wf) hcs
        rw [if_pos hnull] at hr
        rw [Nat.le_antisymm hcs ht.runs.span.2.1]; exact termS ih r hr ..
      · refine (ih.later t.stop (Nat.not_le.1 hcs) (ht.runs.stop_le hcs)).s r ?_ ..
        by_cases hn : nullE N e = true
        · rw [if_pos hn] at hr; exact wfS_mono N R top ih.rank r hr
        · rw [if_neg hn] at hr; exact hr
theorem termC (ih : Inner g N R top inp p k) : ∀ es, wfC N R top k es = true → Halts g inp (.alt es p)
  | .nil, _ => halts_of_done (n := 1) (by simp only [run, evalChoice]; trivial)
  | .cons e r, h =>
      have ⟨he, hr⟩ := Bool.and_eq_true_iff.1 h
      (termE ih e he).bind (evalChoice_cons g inp · e r p) (fun t _ => ⟨.ok t, trivial, tends_const⟩) (termC ih r hr)
end

theorem ref_halts (hw : wfG g N R top = true) {p : Nat}
    (Hgt : ∀ p', p < p' → p' ≤ inp.size → TermAll g N R top inp p') (A : String) :
    Halts g inp (.exp (.ref A) p) := by
  cases hl : g.lookup A with
  | none => exact ⟨.fail, trivial, lim_ref_undefined hl⟩
  | some body =>
    have ⟨hA, hb⟩ := wfG_lookup hw hl
    exact (termE ⟨hw, Hgt, Nat.le_of_lt hA, fun B hB => ref_halts hw Hgt B⟩ body hb).tail (lim_ref hl)
termination_by rkOf R top A
decreasing_by exact hB

theorem termAll (hw : wfG g N R top = true) (p : Nat) : TermAll g N R top inp p :=
  have Hgt := fun p' (_ : p < p') (_ : p' ≤ inp.size) => termAll hw p'
  have ih : Inner g N R top inp p top := ⟨hw, Hgt, Nat.le_refl top, fun A _ => ref_halts hw Hgt A⟩
  ⟨termS ih, fun e hwf hn => rep_step ih (termE ih e hwf) hwf hn⟩
termination_by inp.size - p
decreasing_by omega

theorem peg_result_defined (hw : wfG g N R top = true) (root : String) (p : Nat) :
    ∃ n r, r.done ∧ ∀ m, n ≤ m → eval g inp m (.ref root) p = r :=
  let ⟨r, hd, n, h⟩ := ref_halts hw (fun p' _ _ => termAll hw p') root
  ⟨n, r, hd, h⟩

theorem peg_terminates (hw : wfG g N R top = true) (root : String) (hroot : (g.lookup root).isSome)
    (p : Nat) (hp : p ≤ inp.size) :
    ∃ n, (eval g inp n (.ref root) p).done :=
  -- `hroot` is not needed: a reference to an undefined rule fails; nor is `hp`: beyond the end nothing is consumed
  let ⟨n, _, hd, h⟩ := peg_result_defined (inp := inp) hw root p
  ⟨n, (h n (Nat.le_refl _)).symm ▸ hd⟩

end Bluebell
