import Bluebell.Lemmas.Eid
/-! `rewriteEid` is characterised once, case by case (text, `meta`, not identifiable, identifiable); `assignedIds` and
`stripIds` split the same way.  Each fact about a pass of `rewrite_eid` (`PassInv`, only eIds change, no id mapped to
itself, history-freedom, idempotence) is then a structural induction that rewrites with these equations. -/
namespace Bluebell

/-- `c`, `c'`: the counter of issued ids before and after a stretch of the pass; `ids`: the eIds assigned in it. -/
structure PassInv (c c' : List (String × Nat)) (ids : List String) : Prop where
  monotone : ∀ k, countOf c k ≤ countOf c' k
  fresh : ∀ id ∈ ids, countOf c id = 0 ∧ 1 ≤ countOf c' id
  nodup : ids.Nodup

theorem PassInv.nil (c : List (String × Nat)) : PassInv c c [] :=
  ⟨fun _ => Nat.le_refl _, fun _ h => (by cases h), List.nodup_nil⟩

theorem PassInv.append {c c1 c2 : List (String × Nat)} {a b : List String}
    (h1 : PassInv c c1 a) (h2 : PassInv c1 c2 b) : PassInv c c2 (a ++ b) := by
  refine ⟨fun k => Nat.le_trans (h1.monotone k) (h2.monotone k), ?_, ?_⟩
  · intro id hid
    rcases List.mem_append.mp hid with h | h
    · exact ⟨(h1.fresh id h).1, Nat.le_trans (h1.fresh id h).2 (h2.monotone id)⟩
    · have := h2.fresh id h
      have hm := h1.monotone id
      exact ⟨by omega, this.2⟩
  · rw [List.nodup_append]
    refine ⟨h1.nodup, h2.nodup, ?_⟩
    intro x hx y hy hxy
    subst hxy
    have a1 := (h1.fresh x hx).2
    have a2 := (h2.fresh x hy).1
    omega

theorem Fresh.passInv {m m' : List (String × Nat)} {eid e : String} (h : Fresh m m' eid e) : PassInv m m' [e] :=
  ⟨h.monotone, fun id hid => by cases List.mem_singleton.mp hid; exact ⟨h.was_unissued, h.now_issued⟩, by simp⟩

mutual
def stripIds : Xml → Xml
  | .text t => .text t
  | .elem tag attrs kids =>
    if tag = "meta" then .elem tag attrs kids
    else .elem tag (if identifiable tag then Xml.eraseAttrList "eId" attrs else attrs) (stripIdsL kids)
def stripIdsL : List Xml → List Xml
  | [] => []
  | k :: ks => stripIds k :: stripIdsL ks
end

/-- `mappings` is left out: the pass writes it and never reads it. -/
abbrev Agree (s t : IdState) : Prop := s.counters = t.counters ∧ s.eidCounter = t.eidCounter

theorem getEid_agree {s t : IdState} (h : Agree s t) (pfx name num : String) :
    (s.getEid pfx name num).2 = (t.getEid pfx name num).2 ∧
    Agree (s.getEid pfx name num).1 (t.getEid pfx name num).1 := by
  obtain ⟨c, e, m1⟩ := s
  obtain ⟨c2, e2, m2⟩ := t
  obtain ⟨rfl, rfl⟩ : c = c2 ∧ e = e2 := h
  obtain ⟨c', n, nn, g⟩ := getEid_uniform c e pfx name num
  rw [(g m1).2, (g m2).2]
  exact ⟨rfl, rfl, rfl⟩

/-- `if old_eid != new_eid: … if old_eid: self.mappings.setdefault(old_eid, new_eid)` in `rewrite_eid` -/
def IdState.note (s : IdState) (old new : String) : IdState :=
  if old ≠ new ∧ old ≠ "" then { s with mappings := addMapping s.mappings old new } else s

theorem note_agree (s : IdState) (old new : String) : Agree (s.note old new) s := by
  unfold IdState.note
  split <;> exact ⟨rfl, rfl⟩

theorem Agree.note {s t : IdState} (h : Agree s t) (o n o' n' : String) : Agree (s.note o n) (t.note o' n') :=
  ⟨(note_agree ..).1.trans (h.1.trans (note_agree ..).1.symm),
   (note_agree ..).2.trans (h.2.trans (note_agree ..).2.symm)⟩

theorem addMapping_mem {m : List (String × String)} {old new : String} {p : String × String}
    (h : p ∈ addMapping m old new) : p ∈ m ∨ p = (old, new) := by
  unfold addMapping at h
  split at h
  · exact Or.inl h
  · simpa using h

theorem note_mappings {s : IdState} {old new : String} :
    ∀ p ∈ (s.note old new).mappings, p ∈ s.mappings ∨ p.1 ≠ p.2 := by
  unfold IdState.note
  intro p hp
  split at hp
  next hc =>
    rcases addMapping_mem hp with h | h
    · exact Or.inl h
    · exact Or.inr (h ▸ hc.1)
  next => exact Or.inl hp

theorem note_same (s : IdState) (new : String) : s.note new new = s := if_neg (fun h => h.1 rfl)

def kidPfx (tag pfx : String) : String :=
  match passLower tag with
  | some low => if pfx ≠ "" then pfx ++ "__" ++ low else low
  | none => pfx

section
variable {tag : String} {attrs : List (String × String)} {kids : List Xml} {pfx : String} {s : IdState}

theorem rewriteEid_text {t : String} : rewriteEid (.text t) pfx s = (.text t, s) := by rw [rewriteEid]

theorem rewriteEid_meta : rewriteEid (.elem "meta" attrs kids) pfx s = (.elem "meta" attrs kids, s) := by
  rw [rewriteEid]; simp

theorem rewriteEid_plain (hm : tag ≠ "meta") (hid : identifiable tag = false) :
    rewriteEid (.elem tag attrs kids) pfx s =
      (.elem tag attrs (rewriteKids kids (kidPfx tag pfx) s).1, (rewriteKids kids (kidPfx tag pfx) s).2) := by
  rw [rewriteEid, if_neg hm]
  unfold kidPfx
  cases hp : passLower tag with
  | some low => rfl
  | none =>
    have he : isExempt tag = true := by simpa [identifiable, hp] using hid
    simp only [he, if_true]

theorem rewriteEid_ident (hid : identifiable tag = true) {g : IdState × String}
    (hg : s.getEid pfx tag (numOf kids) = g) :
    rewriteEid (.elem tag attrs kids) pfx s =
      (.elem tag (newAttrs attrs g.2) (rewriteKids kids g.2 (g.1.note ((attrs.lookup "eId").getD "") g.2)).1,
       (rewriteKids kids g.2 (g.1.note ((attrs.lookup "eId").getD "") g.2)).2) := by
  have hp : passLower tag = none := by
    cases h : passLower tag with
    | none => rfl
    | some l => simp [identifiable, h] at hid
  have he : ¬ isExempt tag = true := by
    intro h; simp [identifiable, hp, h] at hid
  rw [rewriteEid, if_neg (ne_meta_of_identifiable hid)]
  simp only [hp, if_neg he, hg]
  rfl

/-- `meta` keeps its attributes as well, so this needs no `tag ≠ "meta"`. -/
theorem rewriteEid_attrs (hid : identifiable tag = false) : (rewriteEid (.elem tag attrs kids) pfx s).1.attrs = attrs := by
  by_cases hm : tag = "meta"
  · subst hm; rw [rewriteEid_meta]; rfl
  · rw [rewriteEid_plain hm hid]; rfl

theorem rewriteEid_eId (hid : identifiable tag = true) :
    ((rewriteEid (.elem tag attrs kids) pfx s).1.attrs.lookup "eId").getD "" = (s.getEid pfx tag (numOf kids)).2 := by
  rw [rewriteEid_ident hid rfl]
  exact newAttrs_lookup

theorem rewriteKids_nil : rewriteKids [] pfx s = ([], s) := by rw [rewriteKids]

theorem rewriteKids_cons {k : Xml} {ks : List Xml} :
    rewriteKids (k :: ks) pfx s =
      ((rewriteEid k pfx s).1 :: (rewriteKids ks pfx (rewriteEid k pfx s).2).1,
       (rewriteKids ks pfx (rewriteEid k pfx s).2).2) := by
  rw [rewriteKids]

theorem assignedIds_meta : assignedIds (.elem "meta" attrs kids) = [] := by simp [assignedIds]

theorem assignedIds_plain (hm : tag ≠ "meta") (hid : identifiable tag = false) :
    assignedIds (.elem tag attrs kids) = assignedIdsL kids := by simp [assignedIds, hm, hid]

theorem assignedIds_ident (hid : identifiable tag = true) :
    assignedIds (.elem tag attrs kids) = [(attrs.lookup "eId").getD ""] ++ assignedIdsL kids := by
  simp [assignedIds, ne_meta_of_identifiable hid, hid]

theorem stripIds_meta : stripIds (.elem "meta" attrs kids) = .elem "meta" attrs kids := by simp [stripIds]

theorem stripIds_plain (hm : tag ≠ "meta") (hid : identifiable tag = false) :
    stripIds (.elem tag attrs kids) = .elem tag attrs (stripIdsL kids) := by simp [stripIds, hm, hid]

theorem stripIds_ident (hid : identifiable tag = true) :
    stripIds (.elem tag attrs kids) = .elem tag (Xml.eraseAttrList "eId" attrs) (stripIdsL kids) := by
  simp [stripIds, ne_meta_of_identifiable hid, hid]

end

theorem erase_setAttrList (k v : String) (a : List (String × String)) :
    Xml.eraseAttrList k (Xml.setAttrList k v a) = Xml.eraseAttrList k a := by
  induction a with
  | nil => simp [Xml.setAttrList, Xml.eraseAttrList]
  | cons p a ih =>
    unfold Xml.setAttrList
    split <;> simp [Xml.eraseAttrList, *]

theorem erase_newAttrs (attrs : List (String × String)) (new : String) :
    Xml.eraseAttrList "eId" (newAttrs attrs new) = Xml.eraseAttrList "eId" attrs := by
  unfold newAttrs
  split
  · exact erase_setAttrList ..
  · rfl

mutual
theorem rewriteEid_inv : ∀ (x : Xml) (pfx : String) (s : IdState),
    PassInv s.eidCounter (rewriteEid x pfx s).2.eidCounter (assignedIds (rewriteEid x pfx s).1)
  | .text t, pfx, s => by rw [rewriteEid_text]; exact .nil _
  | .elem tag attrs kids, pfx, s => by
    by_cases hm : tag = "meta"
    · subst hm
      rw [rewriteEid_meta, assignedIds_meta]
      exact .nil _
    · cases hid : identifiable tag with
      | false => rw [rewriteEid_plain hm hid, assignedIds_plain hm hid]; exact rewriteKids_inv ..
      | true =>
        rw [rewriteEid_ident hid rfl, assignedIds_ident hid, newAttrs_lookup]
        refine (getEid_spec s pfx tag (numOf kids)).1.passInv.append ?_
        rw [← (note_agree _ ((attrs.lookup "eId").getD "") _).2]
        exact rewriteKids_inv ..
theorem rewriteKids_inv : ∀ (ks : List Xml) (pfx : String) (s : IdState),
    PassInv s.eidCounter (rewriteKids ks pfx s).2.eidCounter (assignedIdsL (rewriteKids ks pfx s).1)
  | [], pfx, s => by rw [rewriteKids_nil]; exact .nil _
  | k :: ks, pfx, s => by
    rw [rewriteKids_cons, assignedIdsL]
    exact (rewriteEid_inv k pfx s).append (rewriteKids_inv ks pfx _)
end

mutual
theorem rewriteEid_stripIds : ∀ (x : Xml) (pfx : String) (s : IdState),
    stripIds (rewriteEid x pfx s).1 = stripIds x
  | .text t, pfx, s => by rw [rewriteEid_text]
  | .elem tag attrs kids, pfx, s => by
    by_cases hm : tag = "meta"
    · subst hm; rw [rewriteEid_meta]
    · cases hid : identifiable tag with
      | false => rw [rewriteEid_plain hm hid, stripIds_plain hm hid, stripIds_plain hm hid, rewriteKids_stripIds]
      | true =>
        rw [rewriteEid_ident hid rfl, stripIds_ident hid, stripIds_ident hid, erase_newAttrs,
          rewriteKids_stripIds]
theorem rewriteKids_stripIds : ∀ (ks : List Xml) (pfx : String) (s : IdState),
    stripIdsL (rewriteKids ks pfx s).1 = stripIdsL ks
  | [], pfx, s => by rw [rewriteKids_nil]
  | k :: ks, pfx, s => by
    rw [rewriteKids_cons, stripIdsL, stripIdsL, rewriteEid_stripIds k pfx s, rewriteKids_stripIds ks pfx _]
end

mutual
theorem rewriteEid_mappings : ∀ (x : Xml) (pfx : String) (s : IdState),
    ∀ p ∈ (rewriteEid x pfx s).2.mappings, p ∈ s.mappings ∨ p.1 ≠ p.2
  | .text t, pfx, s => by rw [rewriteEid_text]; exact fun p hp => Or.inl hp
  | .elem tag attrs kids, pfx, s => by
    by_cases hm : tag = "meta"
    · subst hm
      rw [rewriteEid_meta]
      exact fun p hp => Or.inl hp
    · cases hid : identifiable tag with
      | false => rw [rewriteEid_plain hm hid]; exact rewriteKids_mappings kids _ s
      | true =>
        rw [rewriteEid_ident hid rfl]
        intro p hp
        refine (rewriteKids_mappings _ _ _ p hp).elim (fun h => ?_) Or.inr
        rw [← (getEid_spec s pfx tag (numOf kids)).2]
        exact note_mappings p h
theorem rewriteKids_mappings : ∀ (ks : List Xml) (pfx : String) (s : IdState),
    ∀ p ∈ (rewriteKids ks pfx s).2.mappings, p ∈ s.mappings ∨ p.1 ≠ p.2
  | [], pfx, s => by rw [rewriteKids_nil]; exact fun p hp => Or.inl hp
  | k :: ks, pfx, s => by
    rw [rewriteKids_cons]
    intro p hp
    exact (rewriteKids_mappings ks pfx _ p hp).elim (rewriteEid_mappings k pfx s p) Or.inr
end

theorem stripIds_shape (x : Xml) : (stripIds x).isElem = x.isElem ∧ (stripIds x).tag = x.tag ∧
    (stripIds x).leadText = x.leadText := by
  cases x with
  | text t => simp [stripIds]
  | elem tag attrs kids =>
    rw [stripIds]
    by_cases hm : tag = "meta"
    · simp [hm]
    · simp only [hm, if_false]
      refine ⟨rfl, rfl, ?_⟩
      cases kids with
      | nil => simp [stripIdsL, Xml.leadText]
      | cons k ks =>
        cases k with
        | text s => simp [stripIdsL, stripIds, Xml.leadText]
        | elem t a kk =>
          by_cases ht : t = "meta" <;> simp [stripIdsL, stripIds, ht, Xml.leadText]

theorem numOf_stripIdsL : ∀ (ks : List Xml), numOf (stripIdsL ks) = numOf ks
  | [] => by simp [stripIdsL]
  | k :: ks => by
    obtain ⟨h1, h2, h3⟩ := stripIds_shape k
    have ih := numOf_stripIdsL ks
    unfold numOf at ih ⊢
    simp only [stripIdsL, List.find?_cons, h1, h2]
    cases hb : (k.isElem && k.tag == "num") with
    | true => simpa using h3
    | false => simpa using ih

theorem numOf_rewriteKids (ks : List Xml) (pfx : String) (s : IdState) :
    numOf (rewriteKids ks pfx s).1 = numOf ks := by
  rw [← numOf_stripIdsL, rewriteKids_stripIds, numOf_stripIdsL]

mutual
theorem rewriteEid_history_free : ∀ (x : Xml) (pfx : String) (s t : IdState),
    s.counters = t.counters → s.eidCounter = t.eidCounter →
    assignedIds (rewriteEid x pfx s).1 = assignedIds (rewriteEid (stripIds x) pfx t).1 ∧
    (rewriteEid x pfx s).2.counters = (rewriteEid (stripIds x) pfx t).2.counters ∧
    (rewriteEid x pfx s).2.eidCounter = (rewriteEid (stripIds x) pfx t).2.eidCounter
  | .text u, pfx, s, t, hc, he => by rw [stripIds, rewriteEid_text, rewriteEid_text]; exact ⟨rfl, hc, he⟩
  | .elem tag attrs kids, pfx, s, t, hc, he => by
    by_cases hm : tag = "meta"
    · subst hm
      rw [stripIds_meta, rewriteEid_meta, rewriteEid_meta]
      exact ⟨rfl, hc, he⟩
    · cases hid : identifiable tag with
      | false =>
        rw [stripIds_plain hm hid, rewriteEid_plain hm hid, rewriteEid_plain hm hid, assignedIds_plain hm hid,
          assignedIds_plain hm hid]
        exact rewriteKids_history_free kids _ s t hc he
      | true =>
        rw [stripIds_ident hid, rewriteEid_ident hid rfl, rewriteEid_ident hid rfl,
          assignedIds_ident hid, assignedIds_ident hid, newAttrs_lookup, newAttrs_lookup, numOf_stripIdsL]
        obtain ⟨g1, g2⟩ := getEid_agree ⟨hc, he⟩ pfx tag (numOf kids)
        rw [← g1]
        obtain ⟨i1, i2⟩ := rewriteKids_history_free kids _ _ _ (g2.note ..).1 (g2.note ..).2
        exact ⟨by rw [i1], i2⟩
theorem rewriteKids_history_free : ∀ (ks : List Xml) (pfx : String) (s t : IdState),
    s.counters = t.counters → s.eidCounter = t.eidCounter →
    assignedIdsL (rewriteKids ks pfx s).1 = assignedIdsL (rewriteKids (stripIdsL ks) pfx t).1 ∧
    (rewriteKids ks pfx s).2.counters = (rewriteKids (stripIdsL ks) pfx t).2.counters ∧
    (rewriteKids ks pfx s).2.eidCounter = (rewriteKids (stripIdsL ks) pfx t).2.eidCounter
  | [], pfx, s, t, hc, he => by rw [stripIdsL, rewriteKids_nil, rewriteKids_nil]; exact ⟨rfl, hc, he⟩
  | k :: ks, pfx, s, t, hc, he => by
    rw [stripIdsL, rewriteKids_cons, rewriteKids_cons, assignedIdsL, assignedIdsL]
    obtain ⟨a1, a2⟩ := rewriteEid_history_free k pfx s t hc he
    obtain ⟨b1, b2⟩ := rewriteKids_history_free ks pfx _ _ a2.1 a2.2
    exact ⟨by rw [a1, b1], b2⟩
end

mutual
theorem rewriteEid_idem : ∀ (x : Xml) (pfx : String) (s t : IdState),
    s.counters = t.counters → s.eidCounter = t.eidCounter →
    (rewriteEid (rewriteEid x pfx s).1 pfx t).1 = (rewriteEid x pfx s).1 ∧
    (rewriteEid (rewriteEid x pfx s).1 pfx t).2.mappings = t.mappings ∧
    (rewriteEid (rewriteEid x pfx s).1 pfx t).2.counters = (rewriteEid x pfx s).2.counters ∧
    (rewriteEid (rewriteEid x pfx s).1 pfx t).2.eidCounter = (rewriteEid x pfx s).2.eidCounter
  | .text u, pfx, s, t, hc, he => by rw [rewriteEid_text, rewriteEid_text]; exact ⟨rfl, rfl, hc.symm, he.symm⟩
  | .elem tag attrs kids, pfx, s, t, hc, he => by
    by_cases hm : tag = "meta"
    · subst hm
      rw [rewriteEid_meta, rewriteEid_meta]
      exact ⟨rfl, rfl, hc.symm, he.symm⟩
    · cases hid : identifiable tag with
      | false =>
        rw [rewriteEid_plain hm hid, rewriteEid_plain hm hid]
        obtain ⟨i1, i2⟩ := rewriteKids_idem kids (kidPfx tag pfx) s t hc he
        exact ⟨by rw [i1], i2⟩
      | true =>
        -- the second run computes the same id (`g1`), finds it on the element, and so records nothing
        rw [rewriteEid_ident hid rfl, rewriteEid_ident hid rfl, newAttrs_lookup, numOf_rewriteKids]
        obtain ⟨g1, g2⟩ := getEid_agree ⟨hc, he⟩ pfx tag (numOf kids)
        rw [← g1, newAttrs_of_lookup newAttrs_lookup, note_same]
        obtain ⟨i1, i2, i3⟩ := rewriteKids_idem kids _ _ _ ((note_agree ..).1.trans g2.1) ((note_agree ..).2.trans g2.2)
        exact ⟨by rw [i1], by rw [i2, (getEid_spec t pfx tag (numOf kids)).2], i3⟩
theorem rewriteKids_idem : ∀ (ks : List Xml) (pfx : String) (s t : IdState),
    s.counters = t.counters → s.eidCounter = t.eidCounter →
    (rewriteKids (rewriteKids ks pfx s).1 pfx t).1 = (rewriteKids ks pfx s).1 ∧
    (rewriteKids (rewriteKids ks pfx s).1 pfx t).2.mappings = t.mappings ∧
    (rewriteKids (rewriteKids ks pfx s).1 pfx t).2.counters = (rewriteKids ks pfx s).2.counters ∧
    (rewriteKids (rewriteKids ks pfx s).1 pfx t).2.eidCounter = (rewriteKids ks pfx s).2.eidCounter
  | [], pfx, s, t, hc, he => by rw [rewriteKids_nil, rewriteKids_nil]; exact ⟨rfl, rfl, hc.symm, he.symm⟩
  | k :: ks, pfx, s, t, hc, he => by
    rw [rewriteKids_cons, rewriteKids_cons]
    obtain ⟨a1, a2, a3, a4⟩ := rewriteEid_idem k pfx s t hc he
    obtain ⟨b1, b2, b3⟩ := rewriteKids_idem ks pfx (rewriteEid k pfx s).2 (rewriteEid (rewriteEid k pfx s).1 pfx t).2
      a3.symm a4.symm
    exact ⟨by rw [a1, b1], by rw [b2, a2], b3⟩
end

end Bluebell
