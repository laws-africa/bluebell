import Bluebell.ToXml
import Bluebell.Post
/-!
`itemText` is the text a dict item carries, in the order the XML generator writes it; `itemToXml_text`:
whenever `itemToXml` succeeds, the in-order text of the element it returns is `itemText` of the item.
The five builders share one invariant (`TextInv`), by strong induction on the fuel; each step lemma takes
its builder apart with `fun_cases`: one goal per path, the equations of the sub-calls as hypotheses.
-/
namespace Bluebell

mutual
def itemText : Item → String
  | .text v => v
  | .node typ name _ children num heading subheading frm _ =>
    let kids := match children with | some l => itemsText l | none => ""
    let n := match num with | some s => s | none => ""
    let h := match heading with | some l => itemsText l | none => ""
    let s := match subheading with | some l => itemsText l | none => ""
    let f := match frm with | some l => itemsText l | none => ""
    if typ = "hier" ∨ typ = "block" then n ++ h ++ s ++ kids
    else if typ = "speechhier" then n ++ h ++ s ++ f ++ kids
    else if typ = "element" ∧ name = "attachment" then h ++ s ++ kids
    else if typ = "marker" then ""
    else kids
def itemsText : List Item → String
  | [] => ""
  | i :: is => itemText i ++ itemsText is
end

/-- `Yields m P`: if the run `m` ends in `.ok a` then `P a`; an error satisfies it vacuously.
There is no rule for sequencing two runs: each `match` of a definition is a constant of its own, and a
rule stated with another `match` does not unify with it. -/
structure Yields {α} (m : Except Err α × GenState) (P : α → Prop) : Prop where
  run : ∀ {a s}, m = (.ok a, s) → P a

theorem Yields.ok {α} {a : α} {s : GenState} {P : α → Prop} (h : P a) : Yields (.ok a, s) P :=
  ⟨fun e => by cases e; exact h⟩

theorem Yields.error {α} {e : Err} {s : GenState} {P : α → Prop} : Yields (.error e, s) P :=
  ⟨fun h => by cases h⟩

theorem Yields.pure {α} {r : Except Err α} {s : GenState} {P : α → Prop} (h : ∀ a, r = .ok a → P a) :
    Yields (r, s) P :=
  ⟨fun e => by cases e; exact h _ rfl⟩

theorem Yields.of_bind {α β} {m : Except Err α × GenState} {r s b s'} {g : α → Except Err β} {Q : α → Prop}
    (hm : Yields m Q) (e : m = (r, s)) (h : (r.bind g, s) = (.ok b, s')) : ∃ a, Q a ∧ g a = .ok b := by
  subst e
  cases r with
  | error => cases h
  | ok a => exact ⟨a, hm.run rfl, (Prod.mk.inj h).1⟩

theorem iterTextL_append (a b : List Xml) : iterTextL (a ++ b) = iterTextL a ++ iterTextL b := by
  induction a with
  | nil => simp [iterTextL]
  | cons x xs ih => simp [iterTextL, ih, String.append_assoc]

theorem mergeText_text : ∀ (ks : List Xml), iterTextL (mergeText ks) = iterTextL ks
  | [] => rfl
  | .elem t a k :: rest => by simp [mergeText, iterTextL, mergeText_text rest]
  | .text s :: rest => by
    have ih := mergeText_text rest
    rw [mergeText]
    split
    · next h => rw [h] at ih; simp [iterTextL, iterText, ← ih, String.append_assoc]
    · split <;> simp_all [iterTextL, iterText]

theorem mkElem_text {tag : String} {attrs : Attrs} {kids : List Xml} {x : Xml}
    (h : mkElem tag attrs kids = .ok x) : iterText x = iterTextL kids := by
  unfold mkElem at h
  split at h
  · cases h
  · injection h with h; subst h; simp [iterText, mergeText_text]

theorem mkElem1_text {tag : String} {attrs : Attrs} {kids xs : List Xml}
    (h : (mkElem tag attrs kids).map (fun x => [x]) = .ok xs) : iterTextL xs = iterTextL kids := by
  cases hm : mkElem tag attrs kids with
  | error e => rw [hm] at h; cases h
  | ok x => rw [hm] at h; cases h; simp [iterTextL, mkElem_text hm]

theorem itemsText_append (a b : List Item) : itemsText (a ++ b) = itemsText a ++ itemsText b := by
  induction a with
  | nil => simp [itemsText]
  | cons x xs ih => simp [itemsText, ih, String.append_assoc]

theorem groupByBool_flat {α} (key : α → Bool) : ∀ l : List α, (groupByBool key l).flatMap (·.2) = l
  | [] => rfl
  | x :: xs => by
    have ih := groupByBool_flat key xs
    rw [groupByBool]
    split
    · next h => rw [h] at ih; split <;> simp [← ih]
    · next h => rw [h] at ih; simp [← ih]

theorem itemText_node (typ name : String) (a : Option Attrs) (children : Option (List Item)) (num : Option String)
    (heading subheading frm : Option (List Item)) (aa : Option Attrs) :
    itemText (.node typ name a children num heading subheading frm aa) =
      (if typ = "hier" ∨ typ = "block" then
         num.getD "" ++ itemsText (heading.getD []) ++ itemsText (subheading.getD []) ++ itemsText (children.getD [])
       else if typ = "speechhier" then
         num.getD "" ++ itemsText (heading.getD []) ++ itemsText (subheading.getD []) ++ itemsText (frm.getD []) ++
           itemsText (children.getD [])
       else if typ = "element" ∧ name = "attachment" then
         itemsText (heading.getD []) ++ itemsText (subheading.getD []) ++ itemsText (children.getD [])
       else if typ = "marker" then ""
       else itemsText (children.getD [])) := by
  cases children <;> cases num <;> cases heading <;> cases subheading <;> cases frm <;> rfl

structure TextInv (u : Uris) (n : Nat) : Prop where
  item : ∀ {parent item st}, Yields (itemToXml u parent n item st) fun x => iterText x = itemText item
  pre : ∀ {parent num h s st}, Yields (preNHS u parent n num h s st) fun xs =>
      iterTextL xs = num.getD "" ++ itemsText (h.getD []) ++ itemsText (s.getD [])
  opt : ∀ {parent tag items st}, Yields (optList u parent n tag items st) fun xs => iterTextL xs = itemsText (items.getD [])
  list : ∀ {parent items st}, Yields (itemsToXml u parent n items st) fun xs => iterTextL xs = itemsText items
  groups : ∀ {parent groups seen st}, Yields (hierGroups u parent n groups seen st) fun xs =>
      iterTextL xs = itemsText (groups.flatMap (·.2))

/- In the step lemmas the fuel is a variable and `ih` speaks of every smaller fuel: `fun_cases` rewrites
the fuel to `fuel' + 1` in the hypotheses too, which it cannot do for a fuel given as `n + 1`. -/
theorem text_item (u : Uris) (fuel : Nat) (ih : ∀ m, m < fuel → TextInv u m) {parent item st} :
    Yields (itemToXml u parent fuel item st) fun x => iterText x = itemText item := by
  fun_cases itemToXml u parent fuel item st
  -- a text node
  case case2 => exact Yields.ok rfl
  -- hier: the children (`kids`), wrapped in one `content` or grouped, after num/heading/subheading (`p`)
  case case5 attrs kidsI pre s1 kids s2 p hP hK =>
    replace ih := ih _ (Nat.lt_succ_self _)
    have hkids : iterTextL kids = itemsText kidsI := by
      split at hK
      · split at hK
        next r s hA =>
        obtain ⟨ks, hks, hxs⟩ := ih.list.of_bind hA hK
        rw [mkElem1_text hxs, hks]
      · rw [ih.groups.run hK, groupByBool_flat]
    refine Yields.pure fun x hx => ?_
    simp [itemText_node, mkElem_text hx, iterTextL_append, ih.pre.run hP, hkids, kidsI]
  -- block: num/heading/subheading (`p`), then the children (`ks`)
  case case8 attrs kidsI pre s1 p s2 ks all hK hP =>
    replace ih := ih _ (Nat.lt_succ_self _)
    refine Yields.pure fun x hx => ?_
    have hp := ih.pre.run hP
    have hk := ih.list.run hK
    simp only [itemText_node, or_true, if_true, mkElem_text hx, ← hp, ← hk, kidsI]
    -- the `<p/>` put into an empty block has no text
    split
    · next he => obtain ⟨rfl, rfl⟩ := List.append_eq_nil_iff.mp (List.isEmpty_iff.mp he); rfl
    · exact iterTextL_append p ks
  -- speechhier: num/heading/subheading (`p`), the `from` element if any (`f`), the children (`ks`)
  case case12 frm _ attrs kidsI pre s1 p s2 f s3 ks hF hK hP =>
    replace ih := ih _ (Nat.lt_succ_self _)
    have hfrom : iterTextL f = itemsText (frm.getD []) := by
      split at hF
      · split at hF
        next r s hA =>
        obtain ⟨ks, hks, hxs⟩ := ih.list.of_bind hA hF
        rw [mkElem1_text hxs, hks]; rfl
      · cases hF; rfl
    refine Yields.pure fun x hx => ?_
    simp [itemText_node, mkElem_text hx, iterTextL_append, ih.pre.run hP, hfrom,
      ih.list.run hK, kidsI, String.append_assoc]
  -- content, inline: the children
  case case13 kidsI _ _ hk | case14 kidsI _ _ hk =>
    refine ⟨fun h => ?_⟩
    obtain ⟨ks, hks, hx⟩ := (ih _ (Nat.lt_succ_self _)).list.of_bind hk h
    simp [itemText_node, mkElem_text hx, hks, kidsI]
  -- marker: no children
  case case15 => exact Yields.pure fun x hx => by simp [itemText_node, mkElem_text hx, iterTextL]
  -- attachment: heading (`h`), subheading (`s`), then `doc` holding the meta block `m` (no text) and `ks`
  case case21 attrs kidsI s0 attName s1 h s2 s hpres m s3 ks doc hdoc hH hS hK hN =>
    replace ih := ih _ (Nat.lt_succ_self _)
    refine Yields.pure fun x hx => ?_
    simp [itemText_node, mkElem_text hx, iterTextL_append, ih.opt.run hH, ih.opt.run hS,
      iterTextL, mkElem_text hdoc, m, metaStub, iterText, ih.list.run hK, kidsI, String.append_assoc]
  -- an element other than an attachment: the children
  case case22 kidsI hne _ _ hk =>
    refine ⟨fun h => ?_⟩
    obtain ⟨ks, hks, hx⟩ := (ih _ (Nat.lt_succ_self _)).list.of_bind hk h
    simp [itemText_node, mkElem_text hx, hks, kidsI, hne]
  all_goals exact Yields.error

theorem text_pre (u : Uris) (fuel : Nat) (ih : ∀ m, m < fuel → TextInv u m) {parent num h s st} :
    Yields (preNHS u parent fuel num h s st) fun xs =>
      iterTextL xs = num.getD "" ++ itemsText (h.getD []) ++ itemsText (s.getD []) := by
  fun_cases preNHS u parent fuel num h s st
  -- `a` from the num (`r0`), `b` from the heading, `c` from the subheading
  case case5 a s1 b s2 c r0 ha hc hb =>
    replace ih := ih _ (Nat.lt_succ_self _)
    have hnum : iterTextL a = num.getD "" := by
      simp only [r0] at ha
      split at ha
      · split at ha
        · simpa [iterTextL, iterText] using mkElem1_text ha
        · next hv => cases ha; simp at hv; simp [iterTextL, hv]
      · cases ha; rfl
    refine Yields.ok ?_
    rw [iterTextL_append, iterTextL_append, hnum, ih.opt.run hb, ih.opt.run hc]
  all_goals exact Yields.error

theorem text_opt (u : Uris) (fuel : Nat) (ih : ∀ m, m < fuel → TextInv u m) {parent tag items st} :
    Yields (optList u parent fuel tag items st) fun xs => iterTextL xs = itemsText (items.getD []) := by
  fun_cases optList u parent fuel tag items st
  case case1 => exact Yields.error
  -- a non-empty list: one `tag` element around its items
  case case2 hk =>
    refine ⟨fun h => ?_⟩
    obtain ⟨ks, hks, hxs⟩ := (ih _ (Nat.lt_succ_self _)).list.of_bind hk h
    rw [mkElem1_text hxs, hks]; rfl
  -- absent or empty: nothing
  case case3 hne =>
    refine Yields.ok ?_
    match items with
    | none | some [] => rfl
    | some (i :: is) => exact absurd rfl (hne i is)

theorem text_list (u : Uris) (fuel : Nat) (ih : ∀ m, m < fuel → TextInv u m) {parent items st} :
    Yields (itemsToXml u parent fuel items st) fun xs => iterTextL xs = itemsText items := by
  fun_cases itemsToXml u parent fuel items st
  -- the empty list
  case case2 => exact Yields.ok rfl
  -- `i :: is`, both converted
  case case5 hxs hx =>
    replace ih := ih _ (Nat.lt_succ_self _)
    refine Yields.ok ?_
    simp [iterTextL, itemsText, ih.item.run hx, ih.list.run hxs]
  all_goals exact Yields.error

theorem text_groups (u : Uris) (fuel : Nat) (ih : ∀ m, m < fuel → TextInv u m) {parent groups seen st} :
    Yields (hierGroups u parent fuel groups seen st) fun xs => iterTextL xs = itemsText (groups.flatMap (·.2)) := by
  fun_cases hierGroups u parent fuel groups seen st
  -- no group left
  case case2 => exact Yields.ok rfl
  -- a group `g`, wrapped as `h` (`here`), then the remaining groups `r`
  case case6 s1 g h s2 r here hh hr hg =>
    replace ih := ih _ (Nat.lt_succ_self _)
    have hwrap : iterTextL h = iterTextL g := by
      simp only [here] at hh
      split at hh
      · cases hh; rfl
      · split at hh
        · split at hh
          · exact mkElem1_text hh
          · cases hc : mkElem "content" [] g with
            | error e => rw [hc] at hh; cases hh
            | ok c =>
              rw [hc] at hh
              rw [mkElem1_text hh]
              simp [iterTextL, mkElem_text hc]
        · exact mkElem1_text hh
    refine Yields.ok ?_
    rw [iterTextL_append, hwrap, ih.list.run hg, ih.groups.run hr]
    simp [itemsText_append]
  all_goals exact Yields.error

theorem textInv (u : Uris) (n : Nat) : TextInv u n := by
  induction n using Nat.strongRecOn with
  | ind n ih => exact ⟨text_item u n ih, text_pre u n ih, text_opt u n ih, text_list u n ih, text_groups u n ih⟩

theorem itemToXml_text {u : Uris} {parent : Option String} {fuel : Nat} {item : Item} {st st' : GenState} {x : Xml}
    (h : itemToXml u parent fuel item st = (.ok x, st')) : iterText x = itemText item :=
  (textInv u fuel).item.run h

theorem itemToXml_p (u : Uris) (parent : Option String) (fuel : Nat) (s : String) (st : GenState)
    (hs : xmlTextOk s = true) (hne : s ≠ "") :
    (itemToXml u parent (fuel + 3) (.node "content" "p" none (some [Item.text s]) none none none none none) st).1
      = .ok (.elem "p" [] [.text s]) := by
  simp [itemToXml, itemsToXml, mkElem, makerCheck, mergeText, hs, Except.bind, hne]

theorem preNHS_none (u : Uris) (parent : Option String) (fuel : Nat) (st : GenState) :
    preNHS u parent (fuel + 2) none none none st = (.ok [], st) := rfl

end Bluebell
