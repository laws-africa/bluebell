import Bluebell.Lemmas.Lines
/-! `Pad a b`: `b` is the text `a` with any number of spaces inserted at the ends of its lines (before a newline, or at
the end of the text).  `pad_preParse`: `pre_parse` gives the same result on both. -/
namespace Bluebell

inductive Pad : List Char → List Char → Prop
  | done (k : Nat) : Pad [] (List.replicate k ' ')
  | nl (k : Nat) {a b : List Char} : Pad a b → Pad ('\n' :: a) (List.replicate k ' ' ++ '\n' :: b)
  | cons (c : Char) {a b : List Char} : Pad a b → Pad (c :: a) (c :: b)

theorem Pad.refl : ∀ (a : List Char), Pad a a
  | [] => Pad.done 0
  | c :: cs => Pad.cons c (Pad.refl cs)

theorem Pad.prepend (x : List Char) {a b : List Char} (h : Pad a b) : Pad (x ++ a) (x ++ b) := by
  induction x with
  | nil => exact h
  | cons c cs ih => exact Pad.cons c ih

theorem dropTrailing_append_allT (p : Char → Bool) (y : List Char) (hy : ∀ c ∈ y, p c = true) :
    ∀ (x : List Char), dropTrailing p (x ++ y) = dropTrailing p x := fun x => by
  rw [dropTrailing_append, if_pos ((dropTrailing_eq_nil_iff p y).mpr hy)]

theorem joinLines_cons_cons (l l' : List Char) (ls : List (List Char)) :
    joinLines (l :: l' :: ls) = l ++ '\n' :: joinLines (l' :: ls) := rfl

/-! ## The `' +$'` substitution identifies `Pad`-related texts -/

theorem nl_not_mem_spaces (k : Nat) : '\n' ∉ List.replicate k ' ' :=
  fun h => absurd (List.eq_of_mem_replicate h) (by decide)

theorem dropTrailing_spaces (k : Nat) : dropTrailing (· = ' ') (List.replicate k ' ') = [] :=
  (dropTrailing_eq_nil_iff _ _).mpr fun c hc => by simp [List.eq_of_mem_replicate hc]

theorem pad_lines {a b : List Char} (h : Pad a b) :
    (splitLines b).map (dropTrailing (· = ' ')) = (splitLines a).map (dropTrailing (· = ' ')) := by
  induction h with
  | done k => rw [splitLines_no_nl_self _ (nl_not_mem_spaces k)]; simp [dropTrailing_spaces]; rfl
  | nl k _ ih =>
    rw [splitLines_append_nl_of_not_mem _ _ (nl_not_mem_spaces k), splitLines_cons_nl]
    simp only [List.map_cons, dropTrailing_spaces, ih]; rfl
  | @cons c a b _ ih =>
    by_cases hc : c = '\n'
    · subst hc; simp [splitLines_cons_nl, ih]
    · obtain ⟨la, lsa, ea, ea'⟩ := splitLines_cons_other c a hc
      obtain ⟨lb, lsb, eb, eb'⟩ := splitLines_cons_other c b hc
      rw [ea, eb] at ih
      rw [ea', eb']
      simp only [List.map_cons, List.cons.injEq] at ih ⊢
      -- `dropTrailing p (c :: l)` is a function of `c` and `dropTrailing p l`
      rw [dropTrailing_cons, dropTrailing_cons, ih.1]
      exact ⟨rfl, ih.2⟩

theorem pad_stripTrailingSpaces {a b : List Char} (h : Pad a b) :
    stripTrailingSpaces b = stripTrailingSpaces a :=
  congrArg joinLines (pad_lines h)

/-! ## The stages before the substitution keep texts `Pad`-related -/

theorem pad_detab (n : Nat) {a b : List Char} (h : Pad a b) : Pad (detab n a) (detab n b) := by
  induction h with
  | done k => rw [detab_replicate_space]; exact Pad.done k
  | nl k _ ih =>
    rw [detab_append, detab_replicate_space]
    exact Pad.nl k ih
  | cons c _ ih =>
    simp only [detab]
    split
    · exact Pad.prepend _ ih
    · exact Pad.cons c ih

theorem pad_dropWhile {a b : List Char} (h : Pad a b) : Pad (a.dropWhile isPySpace) (b.dropWhile isPySpace) := by
  have hs : ∀ k, (List.replicate k ' ').dropWhile isPySpace = [] := fun k =>
    dropWhile_eq_nil_iff.mpr (all_space_replicate k)
  induction h with
  | done k => rw [hs]; exact Pad.done 0
  | nl k _ ih =>
    rw [List.dropWhile_append, hs]
    simpa [isPySpace_nl] using ih
  | cons c hp ih =>
    by_cases hc : isPySpace c = true
    · simpa [hc] using ih
    · simp only [List.dropWhile_cons, hc]
      exact Pad.cons c hp

theorem Pad.all_eq {p : Char → Bool} (hp : p ' ' = true) {a b : List Char} (h : Pad a b) : b.all p = a.all p := by
  induction h with
  | done k => simp [hp]
  | nl k _ ih => simp [hp, ih]
  | cons c _ ih => simp [ih]

theorem Pad.dropTrailing_nil_iff {a b : List Char} (h : Pad a b) :
    dropTrailing isPySpace b = [] ↔ dropTrailing isPySpace a = [] := by
  rw [dropTrailing_eq_nil_iff, dropTrailing_eq_nil_iff, ← List.all_eq_true, ← List.all_eq_true,
    Pad.all_eq isPySpace_space h]

theorem pad_dropTrailing {a b : List Char} (h : Pad a b) :
    Pad (dropTrailing isPySpace a) (dropTrailing isPySpace b) := by
  induction h with
  | done k =>
    rw [(dropTrailing_eq_nil_iff _ _).mpr (all_space_replicate k)]; exact Pad.done 0
  | @nl k a b hab ih =>
    rw [dropTrailing_append, dropTrailing_cons, dropTrailing_cons,
      (dropTrailing_eq_nil_iff _ _).mpr (all_space_replicate k)]
    by_cases h0 : dropTrailing isPySpace a = []
    · simp only [h0, hab.dropTrailing_nil_iff.mpr h0, isPySpace_nl, if_true]; exact Pad.done 0
    · have h1 : ¬ dropTrailing isPySpace b = [] := fun e => h0 (hab.dropTrailing_nil_iff.mp e)
      simp only [h0, h1, if_false, reduceCtorEq]; exact Pad.nl k ih
  | @cons c a b hab ih =>
    rw [dropTrailing_cons, dropTrailing_cons]
    by_cases h0 : dropTrailing isPySpace a = []
    · simp only [h0, hab.dropTrailing_nil_iff.mpr h0, if_true]; exact Pad.refl _
    · have h1 : ¬ dropTrailing isPySpace b = [] := fun e => h0 (hab.dropTrailing_nil_iff.mp e)
      simp only [h0, h1, if_false]; exact Pad.cons c ih

theorem pad_pyStrip {a b : List Char} (h : Pad a b) : Pad (pyStrip a) (pyStrip b) :=
  pad_dropTrailing (pad_dropWhile h)

theorem pad_preParse (n : Nat) {a b : List Char} (h : Pad a b) : preParse n b = preParse n a := by
  unfold preParse
  rw [pad_stripTrailingSpaces (pad_pyStrip (pad_detab n h))]

end Bluebell
