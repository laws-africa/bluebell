import Bluebell.Lemmas.NestedDoc
import Bluebell.Lemmas.Line
import Bluebell.Lemmas.PreParse
/-!
`BlkK` is `Blk` with the number of blank lines after each content line and each DEDENT line made explicit, so that a block
list determines its token list (`toksKs`) and hence its text (`unlines (toksKs bs)`, the form in which C11 describes the
output of `pre_parse`).  The text of a good block list reads as its blocks, so the six roots accept it
(`good_blocks_accepted`); every token list in C11's normal form is the token list of a block list (`parse_blocks`).
-/
namespace Bluebell

inductive BlkK where
  | line (l : List Char) (k : Nat)
  | nest (bs : List BlkK) (k : Nat)

def blanks (k : Nat) : List Tok := List.replicate k (.line [])

mutual
def toksK : BlkK → List Tok
  | .line l k => .line l :: blanks k
  | .nest bs k => .ind :: (toksKs bs ++ .ded :: blanks k)
def toksKs : List BlkK → List Tok
  | [] => []
  | b :: bs => toksK b ++ toksKs bs
end

mutual
def eraseK : BlkK → Blk
  | .line l _ => .line l
  | .nest bs _ => .nest (eraseKs bs)
def eraseKs : List BlkK → List Blk
  | [] => []
  | b :: bs => eraseK b :: eraseKs bs
end

def PlainLine (l : List Char) : Prop := (∃ c r, l = c :: r ∧ plainStart c = true) ∧ ∀ x ∈ l, isPlain x = true

def escAll (w : List Char) : List Char := w.flatMap fun c => ['\\', c]

def EscLine (l : List Char) : Prop := ∃ c w, l = escAll (c :: w) ∧ ∀ x ∈ c :: w, x ≠ '\n'

/-- Runs are maximal (no run follows a run): `AtSegs` wants the character after a run not to be plain. -/
def WfSegs : List Seg → Prop
  | [] => True
  | .esc c :: ss => c ≠ '\n' ∧ WfSegs ss
  | .run c r :: ss => (∀ x ∈ c :: r, isPlain x = true) ∧ (match ss with | .run _ _ :: _ => False | _ => True) ∧ WfSegs ss

def MixLine (l : List Char) : Prop := ∃ ss, l = segsSrc ss ∧ WfSegs ss ∧ segFirst ss

/-- The three cases that the hypothesis of the acceptance theorem names; the first two are instances of the third
(`mixLine_of_good`), which is what the proofs use. -/
def GoodLine (l : List Char) : Prop := PlainLine l ∨ EscLine l ∨ MixLine l

mutual
def GoodK : BlkK → Prop
  | .line l _ => GoodLine l
  | .nest bs _ => bs ≠ [] ∧ GoodKs bs
def GoodKs : List BlkK → Prop
  | [] => True
  | b :: bs => GoodK b ∧ GoodKs bs
end

theorem segsSrc_esc : ∀ (w : List Char), segsSrc (w.map .esc) = escAll w
  | [] => rfl
  | c :: w => by
    have := segsSrc_esc w
    simp [segsSrc, Seg.src, escAll, this]

theorem wfSegs_esc : ∀ (w : List Char), (∀ x ∈ w, x ≠ '\n') → WfSegs (w.map .esc)
  | [], _ => trivial
  | c :: w, hn => ⟨hn c List.mem_cons_self, wfSegs_esc w fun x hx => hn x (List.mem_cons_of_mem _ hx)⟩

theorem mixLine_of_good {l : List Char} : GoodLine l → MixLine l
  | .inl ⟨⟨c, r, hl, hs⟩, hp⟩ =>
    ⟨[.run c r], by simp [segsSrc, Seg.src, hl], ⟨hl ▸ hp, trivial, trivial⟩, hs⟩
  | .inr (.inl ⟨c, w, hl, hn⟩) => ⟨(c :: w).map .esc, by rw [hl, segsSrc_esc], wfSegs_esc _ hn, trivial⟩
  | .inr (.inr h) => h

theorem nlRun_of_reads {arr : Array Char} : ∀ (k q : Nat) (rest : List Char), ReadsAt arr q (List.replicate k '\n' ++ rest) →
    arr[q + k]? ≠ some '\n' → NlRun arr q k
  | 0, q, _, _, hn => hn
  | k + 1, q, rest, h, hn => by
    obtain ⟨h0, h1⟩ := readsAt_cons.1 h
    exact ⟨h0, nlRun_of_reads k (q + 1) rest h1 (by simpa [Nat.add_assoc, Nat.add_comm 1] using hn)⟩

theorem unlines_blanks (k : Nat) : unlines (blanks k) = List.replicate k '\n' := by
  induction k with
  | zero => rfl
  | succ k ih => simpa [blanks, List.replicate_succ, unlines, Tok.chars] using ih

theorem ind_eq : indentChar = IND := by decide
theorem ded_eq : dedentChar = DED := by decide

theorem unlines_toksK_line (l : List Char) (k : Nat) : unlines (toksK (.line l k)) = l ++ '\n' :: List.replicate k '\n' := by
  simp [toksK, unlines, Tok.chars, unlines_blanks]

theorem unlines_toksK_nest (bs : List BlkK) (k : Nat) :
    unlines (toksK (.nest bs k)) = IND :: '\n' :: (unlines (toksKs bs) ++ DED :: '\n' :: List.replicate k '\n') := by
  simp [toksK, unlines, Tok.chars, unlines_append, unlines_blanks, ind_eq, ded_eq]

theorem unlines_toksKs_cons (b : BlkK) (bs : List BlkK) : unlines (toksKs (b :: bs)) = unlines (toksK b) ++ unlines (toksKs bs) := by
  simp [toksKs, unlines_append]

theorem atSegs_of_reads {arr : Array Char} : ∀ (ss : List Seg) (p : Nat) (rest : List Char),
    ReadsAt arr p (segsSrc ss ++ '\n' :: rest) → WfSegs ss → AtSegs arr p ss
  | [], p, _, h, _ => (readsAt_cons.1 h).1
  | .esc c :: ss, p, rest, h, hw => by
    obtain ⟨h0, h1⟩ := readsAt_cons.1 h
    obtain ⟨h2, h3⟩ := readsAt_cons.1 h1
    exact ⟨h0, h2, hw.1, atSegs_of_reads ss (p + 2) rest h3 hw.2⟩
  | .run c r :: ss, p, rest, h, hw => by
    have h' : ReadsAt arr p ((c :: r) ++ (segsSrc ss ++ '\n' :: rest)) := by simpa [segsSrc, Seg.src] using h
    obtain ⟨hrun, hrest⟩ := readsAt_append h'
    refine ⟨atRun_iff.2 ⟨hrun, hw.1⟩, ?_, atSegs_of_reads ss (p + (c :: r).length) rest hrest hw.2.2⟩
    cases ss with
    | nil =>
      exact ⟨'\n', (readsAt_cons.1 hrest).1, newline_not_plain⟩
    | cons sg ss' =>
      cases sg with
      | esc d => exact ⟨'\\', (readsAt_cons.1 hrest).1, backslash_not_plain⟩
      | run d r' => exact absurd hw.2.1 (by simp)

mutual
theorem atBlk_of_reads (arr : Array Char) : ∀ (b : BlkK) (p : Nat) (rest : List Char), GoodK b →
    ReadsAt arr p (unlines (toksK b) ++ rest) → arr[p + (unlines (toksK b)).length]? ≠ some '\n' →
    AtBlk arr p (eraseK b) (p + (unlines (toksK b)).length)
  | .line l k, p, rest, hg, hr, hn => by
    obtain ⟨ss, rfl, hw, hf⟩ := mixLine_of_good hg
    rw [unlines_toksK_line] at hr hn ⊢
    rw [List.append_assoc] at hr
    have hlen : p + (segsSrc ss ++ '\n' :: List.replicate k '\n').length = p + (segsSrc ss).length + (k + 1) := by
      simp only [List.length_append, List.length_cons, List.length_replicate]
      omega
    rw [hlen] at hn ⊢
    exact atBlk_of_segs p ss _ (atSegs_of_reads ss p _ hr hw) hf k
      (nlRun_of_reads (k + 1) _ rest (readsAt_append hr).2 hn)
  | .nest bs k, p, rest, hg, hr, hn => by
    obtain ⟨hne, hgs⟩ := hg
    rw [unlines_toksK_nest] at hr hn ⊢
    have hlen : p + (IND :: '\n' :: (unlines (toksKs bs) ++ DED :: '\n' :: List.replicate k '\n')).length =
        p + 2 + (unlines (toksKs bs)).length + 1 + (k + 1) := by
      simp only [List.length_append, List.length_cons, List.length_replicate]
      omega
    rw [hlen] at hn ⊢
    obtain ⟨h0, hr1⟩ := readsAt_cons.1 hr
    obtain ⟨h1, hr2⟩ := readsAt_cons.1 hr1
    have hr2' : ReadsAt arr (p + 2) (unlines (toksKs bs) ++ (DED :: '\n' :: (List.replicate k '\n' ++ rest))) := by
      simpa [Nat.add_assoc] using hr2
    obtain ⟨hd0, hr4⟩ := readsAt_cons.1 (readsAt_append hr2').2
    have hd : arr[p + 2 + (unlines (toksKs bs)).length]? ≠ some '\n' := by rw [hd0]; decide
    have hinner := atBlks_of_reads arr bs (p + 2) _ hgs hr2' hd
    refine ⟨h0, h1, atBlks_head_ne_newline hinner hd, ?_, _, hinner, hd0, k, nlRun_of_reads (k + 1) _ rest hr4 hn, rfl⟩
    cases bs with
    | nil => exact absurd rfl hne
    | cons b bs' => simp [eraseKs]
theorem atBlks_of_reads (arr : Array Char) : ∀ (bs : List BlkK) (p : Nat) (rest : List Char), GoodKs bs →
    ReadsAt arr p (unlines (toksKs bs) ++ rest) → arr[p + (unlines (toksKs bs)).length]? ≠ some '\n' →
    AtBlks arr p (eraseKs bs) (p + (unlines (toksKs bs)).length)
  | [], p, rest, _, _, _ => by simp [toksKs, unlines, eraseKs, AtBlks]
  | b :: bs, p, rest, hg, hr, hn => by
    obtain ⟨hgb, hgs⟩ := hg
    rw [unlines_toksKs_cons] at hr hn ⊢
    rw [List.append_assoc] at hr
    rw [List.length_append, ← Nat.add_assoc] at hn ⊢
    -- the tail first: where it starts, the newlines after `b` end
    have htail := atBlks_of_reads arr bs (p + (unlines (toksK b)).length) rest hgs (readsAt_append hr).2 hn
    exact ⟨_, atBlk_of_reads arr b p _ hgb hr (atBlks_head_ne_newline htail hn), htail⟩
end

theorem good_blocks_accepted (bs : List BlkK) (hg : GoodKs bs) (root : String)
    (hroot : root ∈ sixRoots) :
    let inp := (unlines (toksKs bs)).toArray
    ∃ t, Lim aknExec inp (.ref root) 0 (.ok t) ∧ t.stop = inp.size := by
  intro inp
  have := atBlks_of_reads inp bs 0 [] hg (by intro i hi; simp [inp]) (by simp [inp])
  rw [show 0 + (unlines (toksKs bs)).length = inp.size by simp [inp]] at this
  exact root_reads root hroot (eraseKs bs) this

/-! ## every normal-form token list is the token list of a block list -/

theorem finalDepth_blanks (d k : Nat) (ts : List Tok) : finalDepth d (blanks k ++ ts) = finalDepth d ts := by
  induction k with
  | zero => simp [blanks]
  | succ k ih => simpa [blanks, List.replicate_succ, finalDepth] using ih

mutual
theorem finalDepth_toksK (d : Nat) : ∀ b : BlkK, finalDepth d (toksK b) = some d
  | .line l k => by simpa [toksK, finalDepth] using finalDepth_blanks d k []
  | .nest bs k => by
    simp only [toksK, finalDepth]
    rw [finalDepth_append, finalDepth_toksKs (d + 1) bs]
    simpa [finalDepth] using finalDepth_blanks d k []
theorem finalDepth_toksKs (d : Nat) : ∀ bs : List BlkK, finalDepth d (toksKs bs) = some d
  | [] => rfl
  | b :: bs => by
    simp only [toksKs]
    rw [finalDepth_append, finalDepth_toksK d b]
    simpa using finalDepth_toksKs d bs
end

-- What `parse_blocks` yields before the lines are known to be good: content lines and nests are non-empty.
mutual
def StructK : BlkK → Prop
  | .line l _ => l ≠ []
  | .nest bs _ => bs ≠ [] ∧ StructKs bs
def StructKs : List BlkK → Prop
  | [] => True
  | b :: bs => StructK b ∧ StructKs bs
end

/-- `n` bounds the length of `toks`, for the recursion.  Blank lines may come first, so that every tail of `toks` is an
instance again.  `d` is the number of levels open where `toks` starts; by the hypothesis on `finalDepth`, `toks` closes none
but those, so a `rest` that is not empty begins with the DEDENT closing the level `toks` started in. -/
theorem parse_blanks_blocks : ∀ (n : Nat) (toks : List Tok) (d : Nat), toks.length ≤ n → indOk toks →
    (∃ e, e ≤ d ∧ finalDepth d toks = some e) →
    ∃ k bs rest, toks = blanks k ++ (toksKs bs ++ rest) ∧ StructKs bs ∧ (rest = [] ∨ ∃ r, rest = .ded :: r)
  | _, [], _, _, _, _ => ⟨0, [], [], rfl, trivial, .inl rfl⟩
  | _, .ded :: r, _, _, _, _ => ⟨0, [], _, rfl, trivial, .inr ⟨r, rfl⟩⟩
  | 0, _ :: _, _, hn, _, _ => absurd hn (by simp)
  | n + 1, .line l :: ts, d, hn, hi, hf => by
    obtain ⟨k, bs, rest, rfl, hs, hr⟩ := parse_blanks_blocks n ts d (Nat.le_of_succ_le_succ hn) (indOk_of_cons _ _ hi) hf
    by_cases hl : l = []
    · exact ⟨k + 1, bs, rest, by rw [hl]; rfl, hs, hr⟩
    · exact ⟨0, .line l k :: bs, rest, by simp [toksKs, toksK, blanks], ⟨hl, hs⟩, hr⟩
  | n + 1, .ind :: ts, d, hn, hi, ⟨e, he, hf⟩ => by
    obtain ⟨⟨l, ts', rfl, hl⟩, hi1⟩ := (indOk_ind_cons ts).1 hi
    obtain ⟨k0, inner, r1, hb1, hs1, hr1⟩ :=
      parse_blanks_blocks n _ (d + 1) (Nat.le_of_succ_le_succ hn) hi1 ⟨e, by omega, hf⟩
    obtain rfl : k0 = 0 := by
      cases k0 with
      | zero => rfl
      | succ k => exact absurd (Tok.line.inj (List.cons.inj hb1).1) hl
    have hinner : inner ≠ [] := by
      rintro rfl
      rcases hr1 with rfl | ⟨r, rfl⟩ <;> simp [blanks, toksKs] at hb1
    -- an inner list that ran to the end of `toks` would leave the depth at `d + 1 > e`
    obtain ⟨r, rfl⟩ : ∃ r, r1 = .ded :: r := by
      rcases hr1 with rfl | h
      · rw [hb1] at hf
        simp [blanks, finalDepth, finalDepth_toksKs] at hf
        omega
      · exact h
    have hb1 : Tok.line l :: ts' = toksKs inner ++ .ded :: r := hb1
    rw [hb1] at hf hi1 hn
    have hf2 : finalDepth d r = some e := by
      simpa [finalDepth, finalDepth_append, finalDepth_toksKs] using hf
    obtain ⟨k, bs, rest, rfl, hs, hr⟩ := parse_blanks_blocks n r d (by simp at hn; omega)
      (indOk_of_cons _ _ (indOk_of_append _ _ hi1)) ⟨e, he, hf2⟩
    exact ⟨0, .nest inner k :: bs, rest, by rw [hb1]; simp [toksKs, toksK, blanks], ⟨⟨hinner, hs1⟩, hs⟩, hr⟩

theorem parse_blocks : ∀ (n : Nat) (toks : List Tok) (d : Nat), toks.length ≤ n → indOk toks →
    toks.head? ≠ some (.line []) → (∃ e, e ≤ d ∧ finalDepth d toks = some e) →
    ∃ bs rest, toks = toksKs bs ++ rest ∧ StructKs bs ∧ (rest = [] ∨ ∃ r, rest = .ded :: r) := by
  intro n toks d hn hi hh hf
  obtain ⟨k, bs, rest, rfl, hs, hr⟩ := parse_blanks_blocks n toks d hn hi hf
  cases k with
  | zero => exact ⟨bs, rest, rfl, hs, hr⟩
  | succ k => exact absurd rfl hh

theorem contentLines_blanks (k : Nat) : contentLines (blanks k) = List.replicate k [] := by
  induction k with
  | zero => rfl
  | succ k ih => simp [blanks, List.replicate_succ, contentLines] at ih ⊢; exact ih

mutual
theorem goodK_of_struct : ∀ (b : BlkK), StructK b → (∀ l ∈ contentLines (toksK b), l = [] ∨ GoodLine l) → GoodK b
  | .line l k, hs, h => (h l (by simp [toksK, contentLines])).resolve_left hs
  | .nest bs k, hs, h => by
    refine ⟨hs.1, goodKs_of_struct bs hs.2 (fun l hl => h l ?_)⟩
    simp only [toksK, contentLines, contentLines_append]
    exact List.mem_append_left _ hl
theorem goodKs_of_struct : ∀ (bs : List BlkK), StructKs bs → (∀ l ∈ contentLines (toksKs bs), l = [] ∨ GoodLine l) → GoodKs bs
  | [], _, _ => trivial
  | b :: bs, hs, h => by
    refine ⟨goodK_of_struct b hs.1 (fun l hl => h l ?_), goodKs_of_struct bs hs.2 (fun l hl => h l ?_)⟩
    · simp only [toksKs, contentLines_append]; exact List.mem_append_left _ hl
    · simp only [toksKs, contentLines_append]; exact List.mem_append_right _ hl
end

/-- The three hypotheses are C11's normal form. -/
theorem blocks_of_normal_form (toks : List Tok) (hb : finalDepth 0 toks = some 0) (hi : indOk toks)
    (hf : ∃ l ts, toks = .line l :: ts ∧ l ≠ []) : ∃ bs, toks = toksKs bs ∧ StructKs bs := by
  obtain ⟨l, ts, rfl, hl⟩ := hf
  obtain ⟨bs, rest, h1, hs, hr⟩ := parse_blocks _ (.line l :: ts) 0 (Nat.le_refl _) hi (by simpa using hl) ⟨0, Nat.le_refl _, hb⟩
  rcases hr with h | ⟨r, h⟩
  · subst h; exact ⟨bs, by simpa using h1, hs⟩
  · subst h
    rw [h1, finalDepth_append, finalDepth_toksKs] at hb
    simp [finalDepth] at hb

end Bluebell
