import Bluebell.Lemmas.Line
import Bluebell.Lemmas.BlockLine
/-!
A flat plain-text document (`AtLines`): non-empty lines of plain characters, each starting with a character that no keyword,
marker or container rule can start with (`plainStart`, a check on the regenerated grammar), separated by single newlines, the
last one followed by the end of the text.  It is a block list without nesting (`atBlks_of_atLines` in `NestedDoc`), which is
how `C01_flat_plain_text_accepted` is proved.
-/
namespace Bluebell

def plainStart (c : Char) : Bool :=
  blockChoosesLine c && isPlain c && c != Char.ofNat 14 && c != Char.ofNat 15 &&
  (["conclusions_marker", "attachment_marker", "body_marker", "preface", "preamble", "conclusions", "attachments",
     "introduction", "background", "arguments_marker", "remedies", "motivation", "decision", "remedies_marker",
     "motivation_marker", "decision_marker"].all
    fun r => !mayStart aknExec 100 (.ref r) (some c) && (aknExec.lookup r).isSome)

def AtLines (inp : Array Char) : Nat → List (List Char) → Prop
  | p, [] => p = inp.size
  | p, l :: rest => (∃ c r, l = c :: r ∧ plainStart c = true) ∧ AtPlain inp p l ∧ AtLines inp (p + l.length + 1) rest

instance AtLines.instDecidable (inp : Array Char) : ∀ p ls, Decidable (AtLines inp p ls)
  | _, [] => inferInstanceAs (Decidable (_ = _))
  | p, l :: ls =>
    have := AtLines.instDecidable inp (p + l.length + 1) ls
    have : Decidable (∃ c r, l = c :: r ∧ plainStart c = true) :=
      decidable_of_iff (l.head?.any plainStart = true) (by cases l <;> simp)
    inferInstanceAs (Decidable (_ ∧ _ ∧ _))

variable {inp : Array Char}

theorem plainStart_parts {c : Char} (h : plainStart c = true) : blockChoosesLine c = true ∧ isPlain c = true := by
  simp only [plainStart, Bool.and_eq_true] at h
  exact h.1.1.1

/-- Evaluated once; C01 and C03 both cite it. -/
theorem plainStart_table :
    ("abcdefghijklmnopqrstuvwxyz0123456789(\"'.,;:-é§".toList.all plainStart) = true := by decide +kernel

theorem eol_exact (q : Nat) (h0 : inp[q]? = some '\n') (h1 : inp[q + 1]? ≠ some '\n') :
    ∃ t, Lim aknExec inp (.ref "eol") q (.ok t) ∧ t.stop = q + 1 :=
  eol_run q 0 ⟨h0, h1⟩

theorem line_exact (p : Nat) (c : Char) (r : List Char) (h : AtPlain inp p (c :: r)) (hc : c ≠ Char.ofNat 15)
    (hn : inp[p + (c :: r).length + 1]? ≠ some '\n') :
    ∃ t, Lim aknExec inp (.ref "line") p (.ok t) ∧ t.stop = p + (c :: r).length + 1 := by
  have hnl : NlRun inp (p + (c :: r).length) (0 + 1) := ⟨atPlain_end h, hn⟩
  obtain ⟨te, stop, hl, hst⟩ := mixed_line_run p [.run c r] (by simp) (atSegs_of_atPlain h) c h.1 hc 0
    (by simpa [segsSrc, Seg.src] using hnl)
  exact ⟨_, hl, by simpa [Tree.stop, segsSrc, Seg.src] using hst⟩

end Bluebell
