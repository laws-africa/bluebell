import Bluebell.Peg.Eval
/-! `scanCls`, and the equivalence of "regex `[class]+` matched once" and `plus (cls …)`. -/
namespace Bluebell

theorem scanCls_spec (inp : Array Char) (neg : Bool) (cs : List Char) (k pos : Nat) :
    pos ≤ scanCls inp neg cs k pos ∧ scanCls inp neg cs k pos ≤ pos + k ∧
    (∀ i, pos ≤ i → i < scanCls inp neg cs k pos → ∃ c, inp[i]? = some c ∧ clsMatch neg cs c = true) ∧
    (scanCls inp neg cs k pos = pos + k ∨ inp[scanCls inp neg cs k pos]? = none ∨
      ∃ c, inp[scanCls inp neg cs k pos]? = some c ∧ clsMatch neg cs c = false) := by
  fun_induction scanCls inp neg cs k pos with
  | case1 pos => exact ⟨Nat.le_refl _, Nat.le_refl _, fun i h1 h2 => absurd h2 (Nat.not_lt.2 h1), .inl rfl⟩
  | case2 k pos c hc hm ih =>
    obtain ⟨h1, h2, h3, h4⟩ := ih
    refine ⟨by omega, by omega, fun i hi hlt => ?_, ?_⟩
    · by_cases hip : i = pos
      · exact ⟨c, hip ▸ hc, hm⟩
      · exact h3 i (by omega) hlt
    · rcases h4 with h | h | h
      · exact .inl (by omega)
      · exact .inr (.inl h)
      · exact .inr (.inr h)
  | case3 k pos c hc hm =>
    exact ⟨Nat.le_refl _, by omega, fun i h1 h2 => by omega, .inr (.inr ⟨c, hc, by simpa using hm⟩)⟩
  | case4 k pos hn => exact ⟨Nat.le_refl _, by omega, fun i h1 h2 => by omega, .inr (.inl hn)⟩

theorem scanCls_ge (inp : Array Char) (neg : Bool) (cs : List Char) (k pos : Nat) :
    pos ≤ scanCls inp neg cs k pos := (scanCls_spec inp neg cs k pos).1

/-- Only the spans are compared: the class match yields one leaf where the loop yields one per character. -/
def Res.sameSpan : Res → Res → Prop
  | .ok a, .ok b => a.start = b.start ∧ a.stop = b.stop
  | .fail, .fail => True
  | _, _ => False

theorem eval_cls (g : Grammar) (inp : Array Char) (fuel : Nat) (neg : Bool) (cs : List Char) (pos : Nat) :
    eval g inp (fuel + 1) (.cls neg cs) pos =
      match inp[pos]? with
      | some c => if clsMatch neg cs c then .ok (.leaf pos (pos + 1)) else .fail
      | none => .fail := by
  rw [eval]
  cases inp[pos]? <;> rfl

/-- The scan and the generated loop take the same steps, so the proof follows `scanCls`.  With `k` characters left the loop
needs fuel `k + 2`: one for each round and one for the body of the round that fails. -/
theorem evalRep_cls (g : Grammar) (inp : Array Char) (neg : Bool) (cs : List Char) (start min f : Nat)
    (k pos : Nat) : ∀ acc, inp.size ≤ pos + k →
      ∃ kids, evalRep g inp (f + k + 2) (.cls neg cs) start pos acc min =
        (if min ≤ acc.length + (scanCls inp neg cs k pos - pos)
         then .ok (.node start (scanCls inp neg cs k pos) [] [] kids) else .fail) := by
  have stop : ∀ n pos acc, eval g inp (n + 1) (.cls neg cs) pos = .fail →
      ∃ kids, evalRep g inp (n + 2) (.cls neg cs) start pos acc min =
        (if min ≤ acc.length + (pos - pos) then .ok (.node start pos [] [] kids) else .fail) :=
    fun n pos acc h => ⟨acc.reverse, by rw [evalRep, h, Nat.sub_self]; rfl⟩
  fun_induction scanCls inp neg cs k pos with
  | case1 pos =>
    exact fun acc hsz => stop _ pos acc (by rw [eval_cls, Array.getElem?_eq_none (show inp.size ≤ pos from hsz)])
  | case2 k pos c hc hm ih =>
    intro acc hsz
    obtain ⟨kids, h⟩ := ih (.leaf pos (pos + 1) :: acc) (by omega)
    have hge := scanCls_ge inp neg cs k (pos + 1)
    refine ⟨kids, ?_⟩
    rw [evalRep, eval_cls, hc]
    simp only [hm, if_true, Tree.stop_leaf, Nat.not_succ_le_self, if_false]
    refine h.trans ?_
    rw [List.length_cons, show acc.length + 1 + (scanCls inp neg cs k (pos + 1) - (pos + 1)) =
      acc.length + (scanCls inp neg cs k (pos + 1) - pos) by omega]
  | case3 k pos c hc hm => exact fun acc _ => stop _ pos acc (by rw [eval_cls, hc]; simp [hm])
  | case4 k pos hn => exact fun acc _ => stop _ pos acc (by rw [eval_cls, hn])

/-- `.rx1` is parser.py's hand-optimised plain-text rule: the regular expression `[class]+` matched once. -/
theorem rx1_equiv_plus (g : Grammar) (inp : Array Char) (neg : Bool) (cs : List Char) (pos fuel : Nat)
    (hf : inp.size - pos + 3 ≤ fuel) :
    Res.sameSpan (eval g inp fuel (.rx1 neg cs) pos) (eval g inp fuel (.plus (.cls neg cs)) pos) := by
  obtain ⟨f, rfl⟩ : ∃ f, fuel = f + (inp.size - pos) + 2 + 1 := ⟨fuel - (inp.size - pos) - 3, by omega⟩
  obtain ⟨kids, h⟩ := evalRep_cls g inp neg cs pos 1 f (inp.size - pos) pos [] (by omega)
  have hge := scanCls_ge inp neg cs (inp.size - pos) pos
  rw [eval, eval, h]
  simp only [List.length_nil, Nat.zero_add]
  by_cases hlt : pos < scanCls inp neg cs (inp.size - pos) pos
  · rw [if_pos hlt, if_pos (by omega)]
    simp [Res.sameSpan, Tree.start, Tree.stop]
  · rw [if_neg hlt, if_neg (by omega)]
    simp [Res.sameSpan]

end Bluebell
